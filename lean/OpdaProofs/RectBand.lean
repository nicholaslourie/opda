import OpdaProofs.RectVolume
import OpdaProofs.BandBox
import Mathlib.MeasureTheory.Measure.Lebesgue.EqHaar

/-!
# The band contains `F` everywhere iff the order statistics of `F ∘ y` lie in the rectangle (C01: reduction)

Combines `Opda.Band.band_contains_iff_box` (the band contains a continuous CDF everywhere iff the box inequalities hold
at the order statistics) with the order statistics of `Fin n → ℝ` samples: for a sample without ties the event "the band
built on the sample contains `F` at every `t`" is the rectangle event for the order statistics of `F ∘ y`
(`bandF_iff_rect`); independent uniforms have no ties almost surely (`ae_injective`).  The probabilities follow in
`RectPIT.lean` (`cdfPi_band`).
-/
namespace Opda.RectProbP
open Finset Opda.RectProb Opda.Band MeasureTheory Set

/-- the sorted sample as a sequence `ℕ → ℝ` (the form used by `band_contains_iff_box`; entries beyond `n` unused) -/
noncomputable def sortedSeq {n : ℕ} (u : Fin n → ℝ) (i : ℕ) : ℝ := if h : i < n then orderStat u ⟨i, h⟩ else 0

theorem sortedSeq_of_lt {n : ℕ} (u : Fin n → ℝ) {i : ℕ} (h : i < n) : sortedSeq u i = orderStat u ⟨i, h⟩ := dif_pos h

/-- the event "the band with level tables `L`, `U` built on the sample contains `F` at every `t`" -/
def BandEvF (n : ℕ) (F : ℝ → ℝ) (L U : ℕ → ℝ) : Set (Fin n → ℝ) :=
  {y | ∀ t k, IsCount n (sortedSeq y) t k → L k ≤ F t ∧ F t ≤ U k}

theorem mem_BandEvF {n : ℕ} {F : ℝ → ℝ} {L U : ℕ → ℝ} {y : Fin n → ℝ} :
    y ∈ BandEvF n F L U ↔ ∀ t k, IsCount n (sortedSeq y) t k → L k ≤ F t ∧ F t ≤ U k := Iff.rfl

theorem bandF_iff_rect {n : ℕ} (L U : ℕ → ℝ) (hL0 : L 0 ≤ 0) (hUn : 1 ≤ U n)
    (F : ℝ → ℝ) (hmono : Monotone F) (hcont : Continuous F) (h0 : ∀ t, 0 ≤ F t) (h1 : ∀ t, F t ≤ 1)
    (y : Fin n → ℝ) (hinj : Function.Injective y) :
    y ∈ BandEvF n F L U ↔ ∀ i : Fin n, L (i.val + 1) ≤ orderStat (F ∘ y) i ∧ orderStat (F ∘ y) i ≤ U i.val := by
  have hstrict : StrictMono (orderStat y) :=
    (orderStat_mono y).strictMono_of_injective (hinj.comp (Tuple.sort y).injective)
  have hy : ∀ i j, i < j → j < n → sortedSeq y i < sortedSeq y j := by
    intro i j hij hj
    rw [sortedSeq_of_lt y (hij.trans hj), sortedSeq_of_lt y hj]
    exact hstrict (by exact hij)
  have hbox := band_contains_iff_box n (sortedSeq y) hy L U F hmono hcont h0 h1 hL0 hUn
  rw [mem_BandEvF, hbox]
  constructor
  · intro h i
    have := h i.val i.isLt
    rwa [sortedSeq_of_lt y i.isLt, ← orderStat_comp_mono hmono] at this
  · intro h i hi
    rw [sortedSeq_of_lt y hi, ← orderStat_comp_mono hmono]
    exact h ⟨i, hi⟩

/-- ties are Lebesgue-null: `{u | u i = u j}` is the kernel of `proj i − proj j`, a proper subspace (it misses the unit
vector `eᵢ`, whose coordinates `i`, `j` are `1`, `0`), and a proper subspace is null (`Measure.addHaar_submodule`) -/
theorem volume_tie_null {n : ℕ} (i j : Fin n) (hij : i ≠ j) :
    (volume : Measure (Fin n → ℝ)) {u | u i = u j} = 0 := by
  have hs : {u : Fin n → ℝ | u i = u j}
      = ((LinearMap.ker ((LinearMap.proj i : (Fin n → ℝ) →ₗ[ℝ] ℝ) - LinearMap.proj j) : Submodule ℝ (Fin n → ℝ))
          : Set (Fin n → ℝ)) := by
    ext u
    simp only [mem_ofPred_eq, SetLike.mem_coe, LinearMap.mem_ker, LinearMap.sub_apply, LinearMap.proj_apply, sub_eq_zero]
  rw [hs]
  apply Measure.addHaar_submodule
  intro htop
  have hmem : (Pi.single i (1 : ℝ) : Fin n → ℝ)
      ∈ LinearMap.ker ((LinearMap.proj i : (Fin n → ℝ) →ₗ[ℝ] ℝ) - LinearMap.proj j) := by
    rw [htop]; trivial
  rw [LinearMap.mem_ker, LinearMap.sub_apply, LinearMap.proj_apply, LinearMap.proj_apply, Pi.single_eq_same,
    Pi.single_eq_of_ne' hij, sub_zero] at hmem
  exact one_ne_zero hmem

theorem ae_injective (n : ℕ) : ∀ᵐ u ∂(unifPi n), Function.Injective u := by
  rw [unifPi, ← Measure.restrict_pi_pi (fun _ : Fin n => (volume : Measure ℝ)) fun _ => Icc 0 1, ← volume_pi]
  apply ae_restrict_of_ae
  have : ∀ᵐ u ∂(volume : Measure (Fin n → ℝ)), ∀ i j : Fin n, i ≠ j → u i ≠ u j := by
    rw [ae_all_iff]; intro i
    rw [ae_all_iff]; intro j
    by_cases hij : i = j
    · exact Filter.Eventually.of_forall fun u h => absurd hij h
    · have := volume_tie_null i j hij
      filter_upwards [compl_mem_ae_iff.mpr this] with u hu _
      exact hu
  filter_upwards [this] with u hu i j h
  by_contra hij
  exact hu i j hij h

end Opda.RectProbP

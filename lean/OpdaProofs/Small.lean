import Mathlib.Analysis.SpecialFunctions.Pow.Real
import Mathlib.Tactic

/-! Small theorems: C02-T5 (quantile functions are antitone in the CDF order); C15-T1 (equal-tailed interval / coverage
duality: the tail levels `(1 ∓ c)/2` of nested coverages form a chain in `[0,1]`, `tail_chain`, and `2|1/2 − g| ≤ c` says that
`g` lies between them, `two_abs_half_sub_le`); C20-T2 (tail exactness algebra); and three generic order facts
(`ite_neg_eq_abs`, `lerp_mem`, `half_mono`). -/
namespace Opda.Small

/-- The comparison at ONE level `q`, with the Galois law assumed at that level only: distribution functions satisfy the law
on `0 < q ≤ 1` (C03), never at every `q`, so this is the form that applies to them. -/
theorem quantile_antitone_at {E α : Type} [Preorder E] [Preorder α]
    (a : E) (F G : E → α) (xF xG : E) (q : α)
    (hF : ∀ y, a ≤ y → (xF ≤ y ↔ q ≤ F y)) (hG : ∀ y, a ≤ y → (xG ≤ y ↔ q ≤ G y))
    (hle : ∀ y, F y ≤ G y) (haF : a ≤ xF) : xG ≤ xF :=
  (hG xF haF).mpr (((hF xF haF).mp le_rfl).trans (hle _))

/-- **C02-T5**: if `F ≤ G` pointwise and both quantile functions satisfy the Galois law above `a`,
then `Q_G ≤ Q_F`: the upper CDF band gives the lower tuning-curve band, for every level, and for
*any* pair of distribution functions (not only empirical ones). -/
theorem quantile_antitone {E α : Type} [Preorder E] [Preorder α]
    (a : E) (F G : E → α) (QF QG : α → E)
    (hF : ∀ q y, a ≤ y → (QF q ≤ y ↔ q ≤ F y)) (hG : ∀ q y, a ≤ y → (QG q ≤ y ↔ q ≤ G y))
    (hle : ∀ y, F y ≤ G y) (haF : ∀ q, a ≤ QF q) (q : α) : QG q ≤ QF q :=
  quantile_antitone_at a F G (QF q) (QG q) q (hF q) (hG q) hle (haF q)

/-- the absolute value written out with `<`, as the rational checkers compute it -/
theorem ite_neg_eq_abs {α : Type} [AddCommGroup α] [LinearOrder α] [IsOrderedAddMonoid α] (q : α) :
    (if q < 0 then -q else q) = |q| := by
  split_ifs with h
  exacts [(abs_of_neg h).symm, (abs_of_nonneg (not_lt.mp h)).symm]

section
variable {α : Type} [Field α] [LinearOrder α] [IsStrictOrderedRing α]

theorem lerp_mem {a b w : α} (hab : a ≤ b) (h0 : 0 ≤ w) (h1 : w ≤ 1) : a ≤ a + (b - a) * w ∧ a + (b - a) * w ≤ b :=
  ⟨le_add_of_nonneg_right (mul_nonneg (sub_nonneg.mpr hab) h0),
    le_sub_iff_add_le'.mp (mul_le_of_le_one_right (sub_nonneg.mpr hab) h1)⟩

/-- halving is monotone (stated once: every use of an ordered-field lemma over a generic `α` is dear to elaborate) -/
theorem half_mono : Monotone fun x : α => x / 2 := fun _ _ h => div_le_div_of_nonneg_right h zero_le_two

theorem tail_chain {c c' : α} (hc0 : 0 ≤ c) (hcc : c ≤ c') (hc1 : c' ≤ 1) :
    0 ≤ (1 - c') / 2 ∧ (1 - c') / 2 ≤ (1 - c) / 2 ∧ (1 - c) / 2 ≤ (1 + c) / 2
      ∧ (1 + c) / 2 ≤ (1 + c') / 2 ∧ (1 + c') / 2 ≤ 1 :=
  ⟨div_nonneg (sub_nonneg.2 hc1) zero_le_two, half_mono (sub_le_sub_left hcc 1),
    half_mono ((sub_le_self 1 hc0).trans (le_add_of_nonneg_right hc0)), half_mono ((add_le_add_iff_left 1).2 hcc),
    div_le_one_of_le₀ (one_add_one_eq_two (R := α) ▸ (add_le_add_iff_left 1).2 hc1) zero_le_two⟩

end

theorem two_abs_half_sub_le {g c : ℝ} : 2 * |1 / 2 - g| ≤ c ↔ (1 - c) / 2 ≤ g ∧ g ≤ (1 + c) / 2 := by
  rw [← le_div_iff₀' two_pos, abs_sub_le_iff, sub_div, add_div]
  exact and_congr sub_le_comm sub_le_iff_le_add'

/-- Equal-tailed interval and its coverage function for a `G` that is strictly increasing ON A SET `S` (for a distribution
function: its support, e.g. `[0,1]` for a Beta law) with an inverse `Ginv : [0,1] → S`; the membership statement is for the
points of `S`.  On all of `ℝ` no distribution function is strictly increasing, so this is the form that applies to them. -/
theorem equal_tailed_on (G Ginv : ℝ → ℝ) (S : Set ℝ) (hmono : StrictMonoOn G S)
    (hS : ∀ p, 0 ≤ p → p ≤ 1 → Ginv p ∈ S) (hinv : ∀ p, 0 ≤ p → p ≤ 1 → G (Ginv p) = p)
    (c : ℝ) (hc0 : 0 ≤ c) (hc1 : c ≤ 1) :
    let x := Ginv ((1 - c) / 2)
    let y := Ginv ((1 + c) / 2)
    G y - G x = c ∧ G x = 1 - G y ∧ x ≤ y
      ∧ (∀ t ∈ S, (x ≤ t ∧ t ≤ y) ↔ 2 * |1 / 2 - G t| ≤ c)
      ∧ 2 * |1 / 2 - G x| = c ∧ 2 * |1 / 2 - G y| = c := by
  intro x y
  obtain ⟨a0, -, a2, -, a4⟩ := tail_chain hc0 le_rfl hc1
  have hxS : x ∈ S := hS _ a0 (a2.trans a4)
  have hyS : y ∈ S := hS _ (a0.trans a2) a4
  have hx : G x = (1 - c) / 2 := hinv _ a0 (a2.trans a4)
  have hy : G y = (1 + c) / 2 := hinv _ (a0.trans a2) a4
  have h2 : (1 : ℝ) / 2 - (1 - c) / 2 = c / 2 := by ring
  have h3 : (1 : ℝ) / 2 - (1 + c) / 2 = -(c / 2) := by ring
  have hc : 2 * |c / 2| = c := by rw [abs_of_nonneg (div_nonneg hc0 zero_le_two), mul_div_cancel₀ c two_ne_zero]
  refine ⟨by rw [hx, hy]; ring, by rw [hx, hy]; ring, ?_, fun t ht => ?_, by rw [hx, h2, hc], by rw [hy, h3, abs_neg, hc]⟩
  · exact (hmono.le_iff_le hxS hyS).mp (by rw [hx, hy]; exact a2)
  · rw [← hmono.le_iff_le hxS ht, ← hmono.le_iff_le ht hyS, hx, hy, two_abs_half_sub_le]

/-- **C15-T1**: equal-tailed interval and its coverage function, for any distribution function `G`
with a two-sided inverse `Ginv` on `[0,1]`.  (Proved as the case `S = univ` of `equal_tailed_on`.) -/
theorem equal_tailed (G Ginv : ℝ → ℝ) (hmono : StrictMono G)
    (hinv : ∀ p, 0 ≤ p → p ≤ 1 → G (Ginv p) = p) (c : ℝ) (hc0 : 0 ≤ c) (hc1 : c ≤ 1) :
    let x := Ginv ((1 - c) / 2)
    let y := Ginv ((1 + c) / 2)
    G y - G x = c ∧ G x = 1 - G y ∧ x ≤ y
      ∧ (∀ t, (x ≤ t ∧ t ≤ y) ↔ 2 * |1 / 2 - G t| ≤ c)
      ∧ 2 * |1 / 2 - G x| = c ∧ 2 * |1 / 2 - G y| = c := by
  intro x y
  obtain ⟨h1, h2, h3, h4, h5, h6⟩ :=
    equal_tailed_on G Ginv Set.univ (hmono.strictMonoOn _) (fun _ _ _ => Set.mem_univ _) hinv c hc0 hc1
  exact ⟨h1, h2, h3, fun t => h4 t (Set.mem_univ t), h5, h6⟩

/-- **C20-T2** (algebra): if the volume of the level set `{f ≥ y}` is `K·(b−y)^(d/2)` (ellipsoid) and
`ω = K / box`, then with `a = b − (1/ω)^(2/d)` the uniform-search tail `vol{f ≥ y}/box` equals the
concave quadratic tail `((b−y)/(b−a))^(d/2)`. -/
theorem tail_exact (K box b y : ℝ) (d : ℕ) (hd : 0 < d) (hK : 0 < K) (hbox : 0 < box) (hy : y ≤ b) :
    let ω := K / box
    let a := b - (1 / ω) ^ ((2 : ℝ) / d)
    K * (b - y) ^ ((d : ℝ) / 2) / box = ((b - y) / (b - a)) ^ ((d : ℝ) / 2) := by
  intro ω a
  have hω : 0 < ω := div_pos hK hbox
  have hd' : (0 : ℝ) < d := by exact_mod_cast hd
  have hba : b - a = (1 / ω) ^ ((2 : ℝ) / d) := by simp [a]
  have hinv : 0 ≤ 1 / ω := by positivity
  have hpow : (b - a) ^ ((d : ℝ) / 2) = 1 / ω := by
    rw [hba, ← Real.rpow_mul hinv]
    have : (2 : ℝ) / d * (d / 2) = 1 := by field_simp
    rw [this, Real.rpow_one]
  have hba0 : 0 ≤ b - a := by rw [hba]; positivity
  rw [Real.div_rpow (sub_nonneg.2 hy) hba0, hpow, div_div_eq_mul_div, div_one]
  ring

#print axioms quantile_antitone
#print axioms equal_tailed
#print axioms tail_exact
end Opda.Small

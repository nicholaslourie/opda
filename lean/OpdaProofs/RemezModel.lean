import OpdaModel.Approx
import OpdaProofs.Lagrange
import Mathlib.LinearAlgebra.Lagrange
import Mathlib.Tactic

/-!
Step 1 of the Remez exchange as coded (`p0`, `p1`, `h`, `p`) produces a polynomial whose error is levelled:
`f(x_i) − p(x_i) = (−1)^i h` at **all** `n+2` reference points (any field, Mathlib interpolants; DESIGN §3 plan
item C17-T2).

The executable model terms `Remez.levelH/levelVals/levelP` are that levelling read through
`Lagr.eval_eq_interpolate`; the same for the value list `levelPv` the driver hands to `checkAltLevel`.
-/
namespace Opda.Remez
open Polynomial Finset

/-- The code's `p0`, `p1`, `h`, `p` in any field: `p = p0 − h·p1` by linearity of interpolation, and `h` is
chosen so that the error at the last point continues the pattern. -/
theorem levelled_interp {F : Type} [Field F] (n : ℕ) (v y : ℕ → F)
    (hv : Set.InjOn v (range (n+1) : Finset ℕ))
    (hden : eval (v (n+1)) (Lagrange.interpolate (range (n+1)) v (fun i => (-1:F)^i)) + (-1)^n ≠ 0) :
    let h := (eval (v (n+1)) (Lagrange.interpolate (range (n+1)) v y) - y (n+1))
      / (eval (v (n+1)) (Lagrange.interpolate (range (n+1)) v (fun i => (-1:F)^i)) + (-1)^n)
    ∀ i, i ≤ n+1 →
      y i - eval (v i) (Lagrange.interpolate (range (n+1)) v (fun i => y i - h * (-1)^i)) = (-1)^i * h := by
  intro h i hi
  rcases Nat.lt_or_ge i (n+1) with hlt | hge
  · rw [Lagrange.eval_interpolate_at_node _ hv (mem_range.mpr hlt)]; ring
  · obtain rfl : i = n+1 := by omega
    have hlin : (fun i => y i - h * (-1:F)^i) = y - h • (fun i => (-1:F)^i) := rfl
    have hh : h * _ = _ := div_mul_cancel₀ _ hden
    rw [hlin, LinearMap.map_sub, LinearMap.map_smul, eval_sub, eval_smul, smul_eq_mul, pow_succ]
    linear_combination hh

theorem levelled_error (n : ℕ) (v : ℕ → ℝ) (hv : Set.InjOn v (range (n+1) : Finset ℕ))
    (f : ℝ → ℝ)
    (hden : eval (v (n+1)) (Lagrange.interpolate (range (n+1)) v (fun i => (-1:ℝ)^i)) + (-1)^n ≠ 0) :
    let p0 := Lagrange.interpolate (range (n+1)) v (fun i => f (v i))
    let p1 := Lagrange.interpolate (range (n+1)) v (fun i => (-1:ℝ)^i)
    let h := (eval (v (n+1)) p0 - f (v (n+1))) / (eval (v (n+1)) p1 + (-1)^n)
    let p := Lagrange.interpolate (range (n+1)) v (fun i => f (v i) - h * (-1)^i)
    ∀ i, i ≤ n+1 → f (v i) - eval (v i) p = (-1)^i * h :=
  levelled_interp n v (fun i => f (v i)) hv hden

#print axioms levelled_error
end Opda.Remez

namespace Opda.Remez
open Finset Opda.Lagr

section Field
variable {F : Type} [Field F]

theorem altSign_eq (i : ℕ) : (altSign i : F) = (-1) ^ i := by
  unfold altSign
  split_ifs with h
  · exact (Even.neg_one_pow (Nat.even_iff.mpr h)).symm
  · exact (Odd.neg_one_pow (Nat.odd_iff.mpr (by omega))).symm

theorem altSign_fun : (altSign : ℕ → F) = fun i => (-1) ^ i := funext altSign_eq

variable [DecidableEq F]

theorem levelH_eq (n : ℕ) (v y : ℕ → F) (hv : Set.InjOn v (range (n + 1) : Finset ℕ)) :
    levelH n v y
      = (Polynomial.eval (v (n+1)) (Lagrange.interpolate (range (n+1)) v y) - y (n+1))
        / (Polynomial.eval (v (n+1)) (Lagrange.interpolate (range (n+1)) v (fun i => (-1:F)^i)) + (-1)^n) := by
  rw [levelH, eval_eq_interpolate _ _ _ hv, eval_eq_interpolate _ _ _ hv, altSign_eq, altSign_fun]

theorem levelVals_eq (n : ℕ) (v y : ℕ → F) :
    levelVals n v y = fun i => y i - levelH n v y * (-1) ^ i :=
  funext fun i => by rw [levelVals, altSign_eq]

theorem levelP_error (n : ℕ) (v y : ℕ → F) (hv : Set.InjOn v (range (n + 1) : Finset ℕ))
    (hden : Lagr.eval (n + 1) v altSign (v (n + 1)) + altSign n ≠ 0) (i : ℕ) (hi : i ≤ n + 1) :
    y i - levelP n v y (v i) = altSign i * levelH n v y := by
  rw [eval_eq_interpolate _ _ _ hv, altSign_eq, altSign_fun] at hden
  rw [levelP, eval_eq_interpolate _ _ _ hv, levelVals_eq, altSign_eq, levelH_eq n v y hv]
  exact levelled_interp n v y hv hden i hi

end Field

theorem getR_levelPv (n : ℕ) (rs ym : List ℚ) (i : ℕ) (hi : i < n + 1) :
    getR (levelPv n rs ym) i = levelVals n (getR rs) (getR ym) i := by
  rw [getR, levelPv, List.getD_eq_getElem?_getD, List.getElem?_map, List.getElem?_range hi]
  rfl

theorem levelPv_error (n : ℕ) (rs ym : List ℚ) (hv : Set.InjOn (getR rs) (range (n + 1) : Finset ℕ))
    (hden : Lagr.eval (n + 1) (getR rs) altSign (getR rs (n + 1)) + altSign n ≠ 0) (i : ℕ) (hi : i ≤ n + 1) :
    getR ym i - Lagr.eval (n + 1) (getR rs) (getR (levelPv n rs ym)) (getR rs i)
      = altSign i * levelH n (getR rs) (getR ym) := by
  rw [eval_congr (n + 1) (getR rs) _ _ (fun j hj => getR_levelPv n rs ym j hj)]
  exact levelP_error n (getR rs) (getR ym) hv hden i hi

end Opda.Remez

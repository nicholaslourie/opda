import OpdaModel.QuadTrap
import Mathlib.Algebra.BigOperators.Intervals
import Mathlib.Algebra.Order.Field.Basic
import Mathlib.Data.Real.Basic
import Mathlib.Data.Rat.Defs
import Mathlib.Tactic

/-!
The integration loop of `NoisyQuadraticDistribution.average_tuning_curve` (`OpdaModel/QuadTrap.lean`), in four parts:
`Opda.Trap` — the composite trapezoid sum and the code's recursion for it, over `ℝ`; `Opda.TrapLoop` — the executable
loop model read at `ℝ` and the algebra of its values; the loop as run (`runCapped`) and what its stop rule gives;
`Opda.TrapLoop.Witness` — a rational input on which the stop rule is far from an error bound.
The tags `C08-T3`, `C08-T5`, `C09-T9` name the item of the proof plan (DESIGN.md §3, property C08 resp. C09) that a part proves.
-/

namespace Opda.Trap
open Finset

noncomputable def h (lo hi : ℝ) (i : ℕ) : ℝ := (hi - lo) / 2^i

/-- the sum over the left end points of the `2^i` panels of width `h` -/
noncomputable def S (g : ℝ → ℝ) (lo hi : ℝ) (i : ℕ) : ℝ := ∑ k ∈ range (2^i), g (lo + k * h lo hi i)

/-- the sum over the points that level `i+1` adds to the grid (the odd multiples of its `h`), so that
`S (i+1) = S i + O i` (`S_succ`) -/
noncomputable def O (g : ℝ → ℝ) (lo hi : ℝ) (i : ℕ) : ℝ :=
  ∑ j ∈ range (2^i), g (lo + (2 * j + 1) * h lo hi (i+1))

/-- the composite trapezoid sum on `2^i` panels, written with the left sum.  With `S_succ` and `h i = 2 h (i+1)` (`h_succ`)
the refinement step `T (i+1) = T i / 2 + h (i+1) · O i` is an identity of `ring`: the induction step of `loop_eq_trap`. -/
noncomputable def trap (g : ℝ → ℝ) (lo hi : ℝ) (i : ℕ) : ℝ :=
  h lo hi i * (S g lo hi i - g lo / 2 + g hi / 2)

/-- the recursion of the code, `ys = 0.5*ys + h*sum(g(lo + arange(1, 2**i, 2)*h))` with `h` halved each round: a stand-in
over `ℝ` for the second component of the executable model `TrapLoop.iter`, to which `TrapLoop.iter_eq` ties it -/
noncomputable def loop (g : ℝ → ℝ) (lo hi : ℝ) : ℕ → ℝ
  | 0 => 0.5 * (hi - lo) * (g lo + g hi)
  | i+1 => 0.5 * loop g lo hi i + h lo hi (i+1) * O g lo hi i

theorem sum_range_two_mul (f : ℕ → ℝ) (m : ℕ) :
    ∑ k ∈ range (2 * m), f k = ∑ j ∈ range m, f (2 * j) + ∑ j ∈ range m, f (2 * j + 1) := by
  induction m with
  | zero => simp
  | succ m ih =>
    rw [show 2 * (m + 1) = 2 * m + 1 + 1 by ring, sum_range_succ, sum_range_succ, ih,
      sum_range_succ, sum_range_succ]
    ring

theorem h_succ (lo hi : ℝ) (i : ℕ) : h lo hi i = 2 * h lo hi (i+1) := by
  unfold h; rw [pow_succ]; field_simp

theorem S_succ (g : ℝ → ℝ) (lo hi : ℝ) (i : ℕ) : S g lo hi (i+1) = S g lo hi i + O g lo hi i := by
  unfold S O
  rw [pow_succ, mul_comm, sum_range_two_mul]
  congr 1 <;> refine sum_congr rfl fun j _ => ?_
  · rw [h_succ lo hi i, Nat.cast_mul, Nat.cast_ofNat, mul_assoc, mul_left_comm]
  · rw [Nat.cast_add, Nat.cast_mul, Nat.cast_ofNat, Nat.cast_one]

/-- the code's literal `0.5` -/
theorem half : (0.5 : ℝ) = 1 / 2 := by norm_num

/-- **C08-T3**: the refinement recursion computes exactly the composite trapezoid sum on `2^i` panels, for any integrand -/
theorem loop_eq_trap (g : ℝ → ℝ) (lo hi : ℝ) (i : ℕ) : loop g lo hi i = trap g lo hi i := by
  induction i with
  | zero =>
    simp only [loop, trap, h, S, pow_zero, sum_range_one, Nat.cast_zero, zero_mul, add_zero, div_one, half]
    ring
  | succ i ih => rw [loop, ih, trap, trap, S_succ, h_succ lo hi i, half]; ring

#print axioms loop_eq_trap
end Opda.Trap

/-!
C08-T3 / C09-T9 on the executable loop model `Opda.TrapLoop` read at `ℝ` (`nat := Nat.cast`).  `T_i` is linear in the values
on the grid and scales with the length of the interval (`trap_grid`), and changes sign with the orientation (`trap_swap`);
the mirror image (`trap_neg`), a function that vanishes on the grid (`trap_zero`), the affine image of the integrand
(`valueRep_affine`) and an integrand shifted by a constant on the grid (`valueCur_eq_valueRep_partial`) are instances.

`valueRep` is the value with the integrand `1 − Fⁿ` (/repo from 867c66b), `valueCur` the value with the integrand
`1[y>0] − Fⁿ` (/repo up to its parent).  The name parts `Cur` and `Legacy` (`valueCur_*`, `gCur`, `Noisy.avgCur_*`,
`Noisy.avgLegacy_*`, `Noisy.avgRunCappedLegacy`) all mean that second integrand.
-/
namespace Opda.TrapLoop
open Finset Opda.Trap

abbrev cast : ℕ → ℝ := fun k => (k : ℝ)

theorem oddSum_eq (g : ℝ → ℝ) (lo h : ℝ) (r j : ℕ) (acc : ℝ) :
    oddSum cast g lo h r j acc = acc + ∑ t ∈ range r, g (lo + (2 * ((j + t : ℕ) : ℝ) + 1) * h) := by
  induction r generalizing j acc with
  | zero => rw [oddSum, range_zero, sum_empty, add_zero]
  | succ r ih =>
    rw [oddSum, ih, sum_range_succ', add_assoc, add_comm (∑ _ ∈ _, _)]
    simp only [cast, Nat.cast_add, Nat.cast_mul, Nat.cast_ofNat, Nat.cast_one, add_zero, Nat.add_right_comm j 1,
      Nat.add_assoc]

/-- **C08-T3**: the loop state is the step width and the composite trapezoid sum -/
theorem iter_eq (g : ℝ → ℝ) (lo hi : ℝ) (i : ℕ) :
    iter cast g lo hi i = (Trap.h lo hi i, Trap.loop g lo hi i) := by
  induction i with
  | zero =>
    simp only [iter, init, Trap.loop, Trap.h, cast, pow_zero, div_one, Nat.cast_one, Nat.cast_ofNat, Trap.half]
  | succ i ih =>
    have hh : Trap.h lo hi i * (1 / 2) = Trap.h lo hi (i+1) := by rw [h_succ lo hi i]; ring
    rw [iter, ih, step, Nat.add_sub_cancel, oddSum_eq]
    simp only [cast, Nat.cast_one, Nat.cast_ofNat, Nat.cast_zero, zero_add, hh, Trap.loop, Trap.O, Trap.half]

theorem iter_eq_trap (g : ℝ → ℝ) (lo hi : ℝ) (i : ℕ) :
    (iter cast g lo hi i).2 = Trap.trap g lo hi i := by
  rw [iter_eq, loop_eq_trap]

theorem h_mul_pow (lo hi : ℝ) (i : ℕ) : (2^i : ℝ) * Trap.h lo hi i = hi - lo := by
  unfold Trap.h; field_simp

theorem grid_last (lo hi : ℝ) (i : ℕ) : lo + ((2^i : ℕ) : ℝ) * Trap.h lo hi i = hi := by
  push_cast; rw [h_mul_pow]; ring

theorem grid_mem {lo hi : ℝ} (hlh : lo ≤ hi) (i : ℕ) {k : ℕ} (hk : k ≤ 2^i) :
    lo ≤ lo + k * Trap.h lo hi i ∧ lo + k * Trap.h lo hi i ≤ hi := by
  have hh0 : 0 ≤ Trap.h lo hi i := div_nonneg (sub_nonneg.mpr hlh) (pow_nonneg zero_le_two i)
  have h2 := mul_le_mul_of_nonneg_right (Nat.cast_le (α := ℝ).mpr hk) hh0
  rw [Nat.cast_pow, Nat.cast_ofNat, h_mul_pow] at h2
  exact ⟨le_add_of_nonneg_right (mul_nonneg k.cast_nonneg hh0), le_sub_iff_add_le'.mp h2⟩

theorem trap_grid (g g' : ℝ → ℝ) (lo hi lo' hi' B c K : ℝ) (i : ℕ) (hB : hi' - lo' = B * (hi - lo))
    (hg : ∀ k : ℕ, k ≤ 2^i → g' (lo' + k * Trap.h lo' hi' i) = c * g (lo + k * Trap.h lo hi i) + K) :
    Trap.trap g' lo' hi' i = B * (c * Trap.trap g lo hi i + K * (hi - lo)) := by
  have hh : Trap.h lo' hi' i = B * Trap.h lo hi i := by unfold Trap.h; rw [hB]; ring
  have e0 := hg 0 (Nat.zero_le _)
  have e1 := hg (2^i) le_rfl
  rw [grid_last, grid_last] at e1
  simp only [Nat.cast_zero, zero_mul, add_zero] at e0
  have hS : Trap.S g' lo' hi' i = c * Trap.S g lo hi i + 2^i * K := by
    unfold Trap.S
    rw [sum_congr rfl fun k hk => hg k (mem_range.mp hk).le, sum_add_distrib, ← mul_sum, sum_const,
      card_range, nsmul_eq_mul, Nat.cast_pow, Nat.cast_ofNat]
  unfold Trap.trap
  rw [hS, e0, e1, hh, ← h_mul_pow lo hi i]; ring

/-- orientation: the grid of `[hi, lo]` is that of `[lo, hi]` run backwards, with step `−h` -/
theorem trap_swap (g : ℝ → ℝ) (lo hi : ℝ) (i : ℕ) : Trap.trap g hi lo i = - Trap.trap g lo hi i := by
  have hh : Trap.h hi lo i = - Trap.h lo hi i := by unfold Trap.h; ring
  have key : ∑ k ∈ range (2^i + 1), g (hi + k * Trap.h hi lo i)
      = ∑ k ∈ range (2^i + 1), g (lo + k * Trap.h lo hi i) := by
    rw [← sum_range_reflect]
    refine sum_congr rfl fun k hk => ?_
    rw [Nat.add_sub_cancel, Nat.cast_sub (Nat.lt_succ_iff.mp (mem_range.mp hk)), hh]
    congr 1
    linear_combination - grid_last lo hi i
  rw [sum_range_succ, sum_range_succ, grid_last, grid_last] at key
  change Trap.S g hi lo i + g lo = Trap.S g lo hi i + g hi at key
  unfold Trap.trap
  rw [hh]; linear_combination (- Trap.h lo hi i) * key

/-- **mirror image**: the grid of `[−hi, −lo]` is the grid of `[lo, hi]` run from `hi` downwards -/
theorem trap_neg (g g' : ℝ → ℝ) (lo hi c K : ℝ) (i : ℕ)
    (hg : ∀ k : ℕ, k ≤ 2^i → g' (-(hi - k * Trap.h lo hi i)) = c * g (hi - k * Trap.h lo hi i) + K) :
    Trap.trap g' (-hi) (-lo) i = c * Trap.trap g lo hi i + K * (hi - lo) := by
  have h1 : Trap.h (-hi) (-lo) i = Trap.h lo hi i := by unfold Trap.h; ring
  have h2 : Trap.h hi lo i = - Trap.h lo hi i := by unfold Trap.h; ring
  rw [trap_grid g g' hi lo (-hi) (-lo) (-1) c K i (by ring) fun k hk => by
    rw [h1, h2, mul_neg, ← sub_eq_add_neg, ← hg k hk, neg_sub, neg_add_eq_sub], trap_swap]
  ring

theorem trap_zero (g : ℝ → ℝ) (lo hi : ℝ) (i : ℕ)
    (hg : ∀ k : ℕ, k ≤ 2^i → g (lo + k * Trap.h lo hi i) = 0) : Trap.trap g lo hi i = 0 := by
  rw [trap_grid g g lo hi lo hi 1 0 0 i (one_mul _).symm fun k hk => by rw [hg k hk]; ring]; ring

theorem ind_pos (y : ℝ) (h : 0 < y) : ind cast y = 1 := by unfold ind cast; simp [h]
theorem ind_nonpos (y : ℝ) (h : y ≤ 0) : ind cast y = 0 := by
  unfold ind cast; simp [not_lt.mpr h]

theorem ind_neg (x : ℝ) (hx : x ≠ 0) : ind cast (-x) = 1 - ind cast x := by
  rcases lt_or_gt_of_ne hx with h | h
  · rw [ind_pos _ (neg_pos.mpr h), ind_nonpos _ h.le, sub_zero]
  · rw [ind_nonpos _ (neg_nonpos.mpr h.le), ind_pos _ h, sub_self]

theorem tail_neg (lo hi : ℝ) : tail cast (-hi) (-lo) = - tail cast lo hi := by
  unfold tail cast
  simp only [Nat.cast_zero, Left.neg_pos_iff, Left.neg_neg_iff]
  split_ifs <;> ring

/-- `gCur` is `gRep` minus `1[x ≤ 0]`, written in the shape `c * g + K` that `trap_grid` takes
(`c = 1`, `K = −(1 − 1[x>0])`) -/
theorem gCur_eq (pw : ℝ → ℝ → ℝ) (F : ℝ → ℝ) (m : Bool) (nn x : ℝ) :
    gCur cast pw F m nn x = 1 * gRep cast pw F m nn x + -(1 - ind cast x) := by
  unfold gCur gRep; cases m <;> simp [cast]; ring

theorem valueRep_eq (pw : ℝ → ℝ → ℝ) (F : ℝ → ℝ) (m : Bool) (nn lo hi : ℝ) (i : ℕ) :
    valueRep cast pw F m nn lo hi i = lo + Trap.trap (gRep cast pw F m nn) lo hi i := by
  rw [valueRep, iter_eq_trap]

theorem valueCur_eq (pw : ℝ → ℝ → ℝ) (F : ℝ → ℝ) (m : Bool) (nn lo hi : ℝ) (i : ℕ) :
    valueCur cast pw F m nn lo hi i = tail cast lo hi + Trap.trap (gCur cast pw F m nn) lo hi i := by
  rw [valueCur, iter_eq_trap]

/-- reflection of `valueCur`: the `1[y>0]` term needs that no grid point is exactly `0` -/
theorem valueCur_reflect (pw : ℝ → ℝ → ℝ) (F F' : ℝ → ℝ) (hFF : ∀ x, F' (-x) = 1 - F x) (m : Bool)
    (nn lo hi : ℝ) (i : ℕ) (h0 : ∀ k : ℕ, k ≤ 2^i → hi - k * Trap.h lo hi i ≠ 0) :
    valueCur cast pw F' (!m) nn (-hi) (-lo) i = - valueCur cast pw F m nn lo hi i := by
  rw [valueCur_eq, valueCur_eq, tail_neg, trap_neg (gCur cast pw F m nn) _ lo hi (-1) 0 i]
  · ring
  · intro k hk
    unfold gCur
    rw [hFF, ind_neg _ (h0 k hk)]
    cases m <;> simp [cast]; ring

/-- **reflection of the code's integrated curve** (`lo + T_i[1 − Fⁿ]` resp. `lo + T_i[(1−F)ⁿ]`): the value for
`D'` (level `¬m`, cdf `F'(−x) = 1 − F(x)`) on the mirrored range is minus the value for `D`, at *every*
refinement level and with no side condition (`valueCur_reflect` needs "no grid point is exactly 0"):
on the mirrored grid the integrand is `1 − g` -/
theorem valueRep_reflect (pw : ℝ → ℝ → ℝ) (F F' : ℝ → ℝ) (hFF : ∀ x, F' (-x) = 1 - F x) (m : Bool)
    (nn lo hi : ℝ) (i : ℕ) :
    valueRep cast pw F' (!m) nn (-hi) (-lo) i = - valueRep cast pw F m nn lo hi i := by
  rw [valueRep_eq, valueRep_eq, trap_neg (gRep cast pw F m nn) _ lo hi (-1) 1 i]
  · ring
  · intro k _
    unfold gRep
    rw [hFF]
    cases m <;> simp [cast]; ring

theorem valueRep_affine (pw : ℝ → ℝ → ℝ) (F F0 : ℝ → ℝ) (A B : ℝ) (hF : ∀ z, F (A + B * z) = F0 z) (m : Bool)
    (nn lo hi : ℝ) (i : ℕ) :
    valueRep cast pw F m nn (A + B * lo) (A + B * hi) i = A + B * valueRep cast pw F0 m nn lo hi i := by
  rw [valueRep_eq, valueRep_eq, trap_grid (gRep cast pw F0 m nn) _ lo hi _ _ B 1 0 i (by ring)]
  · ring
  · intro k _
    have hh : Trap.h (A + B * lo) (A + B * hi) i = B * Trap.h lo hi i := by unfold Trap.h; ring
    rw [hh, show A + B * lo + k * (B * Trap.h lo hi i) = A + B * (lo + k * Trap.h lo hi i) by ring]
    unfold gRep; rw [hF]; ring

/-- `valueCur` is `valueRep` **when `0 ∉ (lo, hi]`** (`_partial`: for
`lo ≤ 0 < hi` the `1[y>0]` jump lies inside the integration range and the two differ by the
quadrature error at the jump, which is finding F4) -/
theorem valueCur_eq_valueRep_partial (pw : ℝ → ℝ → ℝ) (F : ℝ → ℝ) (m : Bool) (nn lo hi : ℝ) (i : ℕ)
    (hlh : lo ≤ hi) (h : 0 < lo ∨ hi ≤ 0) :
    valueCur cast pw F m nn lo hi i = valueRep cast pw F m nn lo hi i := by
  -- on `[lo, hi]` the term `1 − 1[x>0]` is a constant `K`, and `tail = lo + K (hi − lo)`
  obtain ⟨K, hK, ht⟩ : ∃ K : ℝ, (∀ x, lo ≤ x → x ≤ hi → 1 - ind cast x = K) ∧
      tail cast lo hi = lo + K * (hi - lo) := by
    rcases h with h | h
    · exact ⟨0, fun x hx _ => by rw [ind_pos x (h.trans_le hx), sub_self], by
        simp [tail, cast, h, not_lt.mpr (h.le.trans hlh)]⟩
    · refine ⟨1, fun x _ hx => by rw [ind_nonpos x (hx.trans h), sub_zero], ?_⟩
      rcases h.lt_or_eq with h2 | h2 <;> simp [tail, cast, not_lt.mpr (hlh.trans h), h2]
  rw [valueCur_eq, valueRep_eq, ht, trap_grid (gRep cast pw F m nn) _ lo hi lo hi 1 1 (-K) i (one_mul _).symm
    fun k hk => by rw [gCur_eq, hK _ (grid_mem hlh i hk).1 (grid_mem hlh i hk).2]]
  ring

/-- location–scale equivariance of `valueCur`, **`_partial`**: only when neither
instance has `0` inside its integration range -/
theorem valueCur_affine_partial (pw : ℝ → ℝ → ℝ) (F F0 : ℝ → ℝ) (A B : ℝ) (hB : 0 < B)
    (hF : ∀ z, F (A + B * z) = F0 z) (m : Bool) (nn lo hi : ℝ) (i : ℕ) (hlh : lo ≤ hi)
    (h : 0 < lo ∨ hi ≤ 0) (h' : 0 < A + B * lo ∨ A + B * hi ≤ 0) :
    valueCur cast pw F m nn (A + B * lo) (A + B * hi) i = A + B * valueCur cast pw F0 m nn lo hi i := by
  have hlh' : A + B * lo ≤ A + B * hi := add_le_add_right (mul_le_mul_of_nonneg_left hlh hB.le) A
  rw [valueCur_eq_valueRep_partial pw F m nn _ _ i hlh' h', valueCur_eq_valueRep_partial pw F0 m nn lo hi i hlh h,
    valueRep_affine pw F F0 A B hF]

end Opda.TrapLoop

/-!
The loop as run (`runCapped`) is followed along the trajectory of `iter`: entering round `i+1` the states are `iter … i`
(`runFrom_iter`), and the rule fires there iff `i+1 > 3`, `atol ≥ 0` and every estimate is within `3·atol`
(`stops_iff`).
-/
namespace Opda.TrapLoop
open Opda.Trap

theorem absd_eq (x y : ℝ) : absd x y = |x - y| := by
  unfold absd
  split_ifs with h
  · rw [abs_of_neg (sub_neg.mpr h), neg_sub]
  · rw [abs_of_nonneg (sub_nonneg.mpr (not_lt.mp h))]

theorem maxL_le_iff (l : List ℝ) (a : ℝ) : maxL cast l ≤ a ↔ 0 ≤ a ∧ ∀ x ∈ l, x ≤ a := by
  have gen : ∀ (l : List ℝ) (m : ℝ),
      l.foldl (fun m x => if m < x then x else m) m ≤ a ↔ m ≤ a ∧ ∀ x ∈ l, x ≤ a := by
    intro l
    induction l with
    | nil => intro m; simp
    | cons y t ih =>
      intro m
      rw [List.foldl_cons, ih, List.forall_mem_cons, ← and_assoc]
      refine and_congr_left fun _ => ?_
      split_ifs with h
      · exact ⟨fun hy => ⟨h.le.trans hy, hy⟩, fun hy => hy.2⟩
      · exact ⟨fun hm => ⟨hm, (not_lt.mp h).trans hm⟩, fun hy => hy.1⟩
  simpa [maxL, cast] using gen l 0

/-- `0 ≤ atol` because `maxL ≥ 0` -/
theorem stops_iff (i : ℕ) (l : List ℝ) (atol : ℝ) :
    stops i (maxL cast l / cast 3) atol = true ↔ 3 < i ∧ 0 ≤ atol ∧ ∀ x ∈ l, x ≤ 3 * atol := by
  have : maxL cast l / cast 3 ≤ atol ↔ maxL cast l ≤ 3 * atol := by
    rw [div_le_iff₀ (by norm_num [cast]), mul_comm]; simp [cast]
  simp only [stops, Bool.and_eq_true, decide_eq_true_eq, this, maxL_le_iff]
  refine and_congr_right fun _ => and_congr_left fun _ => ?_
  constructor <;> intro h <;> linarith

theorem runFrom_iter (gs : List (ℝ → ℝ)) (lo hi atol : ℝ) (fuel i : ℕ) (errs : List ℝ) :
    runFrom cast gs lo atol (fuel + 1) (i + 1) (gs.map fun g => iter cast g lo hi i) errs =
      let err := maxL cast (gs.map fun g => absd (iter cast g lo hi (i + 1)).2 (iter cast g lo hi i).2) / cast 3
      if stops (i + 1) err atol then
        some (i + 1, gs.map (fun g => (iter cast g lo hi (i + 1)).2), (err :: errs).reverse)
      else runFrom cast gs lo atol fuel (i + 2) (gs.map fun g => iter cast g lo hi (i + 1)) (err :: errs) := by
  simp only [runFrom, List.zipWith_map_right, List.zipWith_map_left, List.zipWith_self, List.map_map,
    Function.comp_def, iter]
  rfl

theorem runFrom_spec (gs : List (ℝ → ℝ)) (lo hi atol : ℝ) (fuel : ℕ) :
    ∀ (i : ℕ) (errs : List ℝ) (r : ℕ × List ℝ × List ℝ),
      runFrom cast gs lo atol fuel (i + 1) (gs.map fun g => iter cast g lo hi i) errs = some r →
      3 < r.1 ∧ r.2.1 = gs.map (fun g => (iter cast g lo hi r.1).2) ∧
        ∀ g ∈ gs, |(iter cast g lo hi r.1).2 - (iter cast g lo hi (r.1 - 1)).2| ≤ 3 * atol := by
  induction fuel with
  | zero => intro i errs r h; simp [runFrom] at h
  | succ fuel ih =>
    intro i errs r h
    rw [runFrom_iter] at h
    dsimp only at h
    split_ifs at h with hs
    · obtain ⟨h3, -, hle⟩ := (stops_iff _ _ _).mp hs
      obtain rfl := Option.some.inj h
      exact ⟨h3, rfl, fun g hg => absd_eq _ _ ▸ hle _ (List.mem_map.mpr ⟨g, hg, rfl⟩)⟩
    · exact ih _ _ r h

/-- **C08-T3** for the loop as run (`runCapped`, any round budget), with all that the stop rule guarantees: the last
refinement moved every sum by at most `3·atol`.  The distance to the integral is not bounded (`Witness`), which is what
`_partial` in `Props/C08.navg_returns_trapezoid_partial` refers to. -/
theorem runCapped_spec (gs : List (ℝ → ℝ)) (lo hi atol : ℝ) (rounds : ℕ) (r : ℕ × List ℝ × List ℝ)
    (h : runCapped cast gs lo hi atol rounds = some r) :
    3 < r.1 ∧ r.2.1 = gs.map (fun g => Trap.trap g lo hi r.1) ∧
      ∀ g ∈ gs, |Trap.trap g lo hi r.1 - Trap.trap g lo hi (r.1 - 1)| ≤ 3 * atol := by
  simpa only [iter_eq_trap] using runFrom_spec gs lo hi atol rounds 0 [] r h

/-- with a **negative** tolerance the rule `err ≤ atol` can never hold (`err ≥ 0`): the loop exhausts any
round budget (`IntegrationError`).  (With the strict test `err < atol` of /repo up to the parent of fd4085d the same holds for
`atol = 0`, i.e. for the point mass `a = b, o = 0` — finding F5.) -/
theorem runFrom_none_of_atol_neg (gs : List (ℝ → ℝ)) (lo atol : ℝ) (hat : atol < 0) (fuel : ℕ) :
    ∀ (i : ℕ) (sts : List (ℝ × ℝ)) (errs : List ℝ), runFrom cast gs lo atol fuel i sts errs = none := by
  induction fuel with
  | zero => intro i sts errs; rfl
  | succ fuel ih =>
    intro i sts errs
    rw [runFrom, if_neg fun hs => hat.not_ge ((stops_iff _ _ _).mp hs).2.1]
    exact ih _ _ _

/-- rounds `1..3` cannot stop, so the loop returns at round 4 as soon as the estimates of that round are within `3·atol` -/
theorem runFrom_fires_at_4 (gs : List (ℝ → ℝ)) (lo hi atol : ℝ) (hat : 0 ≤ atol)
    (h4 : ∀ g ∈ gs, |(iter cast g lo hi 4).2 - (iter cast g lo hi 3).2| ≤ 3 * atol) (fuel : ℕ) :
    ∀ (i : ℕ) (errs : List ℝ), i < 4 → 4 ≤ i + fuel →
      ∃ errs', runFrom cast gs lo atol fuel (i + 1) (gs.map fun g => iter cast g lo hi i) errs
        = some (4, gs.map (fun g => (iter cast g lo hi 4).2), errs') := by
  induction fuel with
  | zero => intro i errs h4 hf; omega
  | succ fuel ih =>
    intro i errs hi4 hf
    rw [runFrom_iter]
    by_cases h3 : i = 3
    · subst h3
      refine ⟨_, if_pos ((stops_iff _ _ _).mpr ⟨by norm_num, hat, fun x hx => ?_⟩)⟩
      obtain ⟨g, hg, rfl⟩ := List.mem_map.mp hx
      exact absd_eq _ _ ▸ h4 g hg
    · rw [if_neg fun h => by have := ((stops_iff _ _ _).mp h).1; omega]
      exact ih _ _ (by omega) (by omega)

/-- stationary integrands stop at the first permitted round, 4.  (With the strict test `err < atol` and `atol = 0` the
loop never returns: F5.) -/
theorem runCapped_stationary (gs : List (ℝ → ℝ)) (lo hi atol : ℝ) (hat : 0 ≤ atol)
    (hst : ∀ g ∈ gs, ∀ i : ℕ, 1 ≤ i → i ≤ 4 → Trap.trap g lo hi i = Trap.trap g lo hi (i - 1))
    (rounds : ℕ) (hr : 4 ≤ rounds) :
    ∃ errs', runCapped cast gs lo hi atol rounds = some (4, gs.map (fun g => Trap.trap g lo hi 4), errs') := by
  have := runFrom_fires_at_4 gs lo hi atol hat
    (fun g hg => by
      rw [iter_eq_trap, iter_eq_trap, hst g hg 4 (by norm_num) le_rfl, sub_self, abs_zero]; positivity)
    rounds 0 [] (by norm_num) (by omega)
  simp only [iter_eq_trap] at this
  exact this

end Opda.TrapLoop

/-!
C08-T5 (negative result): the stopping rule `i > 3 ∧ |T_i − T_{i−1}|/3 ≤ atol` of
`NoisyQuadraticDistribution.average_tuning_curve` is an error *estimate*, not a bound.  A rational
witness, evaluated by the kernel on the very loop model the driver runs (`Opda.TrapLoop.runCapped`,
here at `Rat`): a continuous, piecewise-linear, non-decreasing CDF on `[1, 2]` for which the loop stops
at the first permitted round (`i = 4`, 16 panels) with error estimate exactly `0`, while the value it
returns is off the true integral by `63/2048 ≈ 0.031 = 30 762·atol` — far beyond the property's
allowance `100·atol`.
-/
namespace Opda.TrapLoop.Witness

def natQ : Nat → Rat := fun k => (k : Rat)

/-- a CDF that is `0` up to `3/2`, rises to `1/2` on `[3/2, 3/2 + δ]`, stays `1/2` up to the grid point
`25/16`, rises to `1` on `[25/16, 25/16 + δ]` (`δ = 1/1024`): both transitions lie strictly between
points of the 16-panel grid `1 + k/16`, and the only grid point they touch, `25/16`, sees exactly `1/2` -/
def F (y : Rat) : Rat :=
  if y ≤ 3/2 then 0
  else if y ≤ 3/2 + 1/1024 then (y - 3/2) * 512
  else if y ≤ 25/16 then 1/2
  else if y ≤ 25/16 + 1/1024 then 1/2 + (y - 25/16) * 512
  else 1

/-- `x ↦ x^1` (the witness uses `n = 1`) -/
def pw1 (x _n : Rat) : Rat := x

/-- integrand of the code for maximising, `n = 1`: `1 − F(y)` -/
def g : Rat → Rat := gRep natQ pw1 F false 1

/-- default tolerance `1e-6·(hi − lo)` -/
def atol : Rat := 1 / 1000000

/-- the end points `1`, `2` and the break points of `F` between them -/
def knots : List Rat := [1, 3/2, 3/2 + 1/1024, 25/16, 25/16 + 1/1024, 2]

/-- *defined* as the trapezoid sum of `g` on the partition `knots`.  It is `∫₁² g`: `g = 1 − F` is continuous
(`F_pieces_agree`) and affine between consecutive knots, where the trapezoid rule is exact.  No theorem of the development
says so; the integral is not formed. -/
def exactIntegral : Rat :=
  ((knots.zip knots.tail).map fun p => (p.2 - p.1) * (g p.1 + g p.2) / 2).foldl (· + ·) 0

/-- the rule fires at the first permitted round because `T_4 = T_3`: the 8-panel grid `1 + k/8` misses both ramps as well
(`F = 0` up to `12/8`, `F = 1` from `13/8`), so both sums are `9/16` and the estimate of round 4 is exactly `0`.  (`runFrom_fires_at_4` is this argument over `ℝ`; the
run on the witness is one fixed computation at `Rat`, which the kernel evaluates.) -/
theorem loop_stops_at_4 :
    (runCapped natQ [g] 1 2 atol 30).map (fun r => (r.1, r.2.1)) = some (4, [9/16]) := by
  decide +kernel

theorem exactIntegral_eq : exactIntegral = 1089/2048 := by decide +kernel

theorem stop_rule_not_a_bound :
    ∃ (i : Nat) (T : Rat), (runCapped natQ [g] 1 2 atol 30).map (fun r => (r.1, r.2.1)) = some (i, [T])
      ∧ 100 * atol < |T - exactIntegral| :=
  ⟨4, 9/16, loop_stops_at_4, by rw [exactIntegral_eq]; decide +kernel⟩

theorem F_is_cdf_on_knots :
    (knots.map F) = [0, 0, 1/2, 1/2, 1, 1] := by decide +kernel

theorem monotone_ite_le {f g : ℚ → ℚ} (c : ℚ) (hf : Monotone f) (hg : Monotone g) (hc : f c ≤ g c) :
    Monotone fun y => if y ≤ c then f y else g y := by
  intro x y hxy
  dsimp only
  split_ifs with hx hy hy
  · exact hf hxy
  · exact (hf hx).trans (hc.trans (hg (not_le.mp hy).le))
  · exact absurd (hxy.trans hy) hx
  · exact hg hxy

/-- `F` is non-decreasing on all of `ℚ`: each of its five pieces is, and at each break point the piece on
the left does not exceed the rest of the chain (the four side goals, cf. `F_pieces_agree`) -/
theorem F_mono : Monotone F := by
  have ramp : ∀ b : ℚ, Monotone fun y : ℚ => (y - b) * 512 := fun b _ _ h =>
    mul_le_mul_of_nonneg_right (sub_le_sub_right h b) (by norm_num)
  refine monotone_ite_le _ monotone_const (monotone_ite_le _ (ramp _) (monotone_ite_le _ monotone_const
    (monotone_ite_le _ ((ramp _).const_add _) monotone_const ?_) ?_) ?_) ?_ <;> norm_num

theorem F_range (y : Rat) : 0 ≤ F y ∧ F y ≤ 1 := by
  have h0 : F (min y (3/2)) = 0 := if_pos (min_le_right _ _)
  have h1 : F (max y 2) = 1 := by
    unfold F
    rw [if_neg, if_neg, if_neg, if_neg] <;>
      exact not_le.mpr (lt_of_lt_of_le (by norm_num) (le_max_right y 2))
  exact ⟨h0 ▸ F_mono (min_le_left _ _), h1 ▸ F_mono (le_max_left _ _)⟩

/-- the affine pieces agree at the break points (continuity of the piecewise definition) -/
theorem F_pieces_agree :
    ((3/2 + 1/1024 : Rat) - 3/2) * 512 = 1/2 ∧ (1/2 + ((25/16 : Rat) - 25/16) * 512 = 1/2)
      ∧ (1/2 + ((25/16 + 1/1024 : Rat) - 25/16) * 512 = 1) := by
  refine ⟨by norm_num, by norm_num, by norm_num⟩

end Opda.TrapLoop.Witness

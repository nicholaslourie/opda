import OpdaProofs.RealInst
import OpdaProofs.CdfOf
import Mathlib.Probability.Distributions.Gaussian.Real
import Mathlib.MeasureTheory.Integral.IntervalIntegral.FundThmCalculus
import Mathlib.Tactic

/-!
# C16-T5: the standard normal helpers over ℝ

`Phi x = γ(−∞,x]` for the standard Gaussian measure `γ` (`OpdaProofs/RealInst.lean`), `phiStd` its density,
`PhiInv q = inf {x | q ≤ Φ x}`.  `Phi` is `cdfOf γ` by `rfl`, so what holds of every distribution function (monotone, limits,
continuity for an atomless law, intermediate values) is quoted from `CdfOf.lean`.  What is special to `γ`: Lebesgue measure is
absolutely continuous with respect to it, hence `Φ` is strictly increasing and the generalised inverse is a two-sided inverse
on `(0,1)` (`PhiInv_Phi`, `Phi_PhiInv`); `γ` is symmetric (`Phi_neg`, `Φ(0) = ½`); its density is known in closed form
(`phiStd_eq`), hence `Φ' = φ` and **`Φ(x) = ½(1 + erf(x/√2))`** with `erf` defined by its integral — the formulas `normal_pdf`
and `normal_cdf` evaluate.  The Galois law and the `±∞` end points of `normal_ppf` follow in `Props/C16.lean`.
-/
namespace Opda.Normal
open MeasureTheory ProbabilityTheory Set Filter Topology

local notation "γ" => gaussianReal 0 1

theorem Phi_mono : Monotone Phi := RectProbP.cdfOf_mono γ

theorem Phi_nonneg (x : ℝ) : 0 ≤ Phi x := RectProbP.cdfOf_nonneg γ x
theorem Phi_le_one (x : ℝ) : Phi x ≤ 1 := RectProbP.cdfOf_le_one γ x

theorem tendsto_Phi_atBot : Tendsto Phi atBot (𝓝 0) := RectProbP.cdfOf_tendsto_atBot γ

theorem tendsto_Phi_atTop : Tendsto Phi atTop (𝓝 1) := RectProbP.cdfOf_tendsto_atTop γ

theorem Phi_sub (x y : ℝ) (h : x ≤ y) : Phi y - Phi x = (γ (Ioc x y)).toReal := RectProbP.cdfOf_sub γ h

theorem Phi_strictMono : StrictMono Phi := by
  intro x y hxy
  have h := Phi_sub x y hxy.le
  have hpos : 0 < (γ (Ioc x y)).toReal := by
    apply ENNReal.toReal_pos _ (measure_ne_top _ _)
    intro h0
    -- Lebesgue measure is absolutely continuous with respect to `γ`: a `γ`-null `Ioc x y` has length `y − x = 0`
    have := gaussianReal_absolutelyContinuous' 0 one_ne_zero h0
    rw [Real.volume_Ioc] at this
    have : y - x ≤ 0 := by simpa using this
    linarith
  linarith

theorem Phi_lt_one (x : ℝ) : Phi x < 1 := lt_of_lt_of_le (Phi_strictMono (by linarith : x < x + 1)) (Phi_le_one _)

theorem Phi_continuous : Continuous Phi := RectProbP.gaussian_cdfOf_continuous

theorem exists_Phi_eq (q : ℝ) (h0 : 0 < q) (h1 : q < 1) : ∃ x, Phi x = q :=
  RectProbP.exists_cdfOf_eq γ Phi_continuous h0 h1

/-- `Φ` is strictly increasing, so `{y | Φ x ≤ Φ y} = [x, ∞)` -/
theorem PhiInv_Phi (x : ℝ) : PhiInv (Phi x) = x := by
  have hset : {y | Phi x ≤ Phi y} = Ici x := Set.ext fun y => Phi_strictMono.le_iff_le
  rw [PhiInv, hset, csInf_Ici]

theorem Phi_PhiInv (q : ℝ) (h0 : 0 < q) (h1 : q < 1) : Phi (PhiInv q) = q := by
  obtain ⟨x0, rfl⟩ := exists_Phi_eq q h0 h1
  rw [PhiInv_Phi]

/-- the error function, *defined* by its integral (Mathlib has no `erf`) -/
noncomputable def erfR (x : ℝ) : ℝ := 2 / Real.sqrt Real.pi * ∫ t in (0:ℝ)..x, Real.exp (-t ^ 2)

theorem gamma_Ioc (a b : ℝ) (h : a ≤ b) :
    (γ (Ioc a b)).toReal = ∫ t in a..b, gaussianPDFReal 0 1 t := by
  rw [gaussianReal_apply_eq_integral 0 one_ne_zero, intervalIntegral.integral_of_le h,
    ENNReal.toReal_ofReal]
  exact setIntegral_nonneg measurableSet_Ioc fun t _ => gaussianPDFReal_nonneg 0 1 t

theorem Phi_sub_integral (a b : ℝ) : Phi b - Phi a = ∫ t in a..b, gaussianPDFReal 0 1 t := by
  rcases le_total a b with h | h
  · rw [Phi_sub a b h, gamma_Ioc a b h]
  · rw [intervalIntegral.integral_symm, ← gamma_Ioc b a h, ← Phi_sub b a h]; ring

theorem Phi_neg (x : ℝ) : Phi (-x) = 1 - Phi x := by
  have := nullSingletonClass_gaussianReal (μ := 0) one_ne_zero
  have hmap : Measure.map (fun y : ℝ => -y) γ = γ := by
    simpa using gaussianReal_map_neg (μ := 0) (v := 1)
  have h1 : γ (Iic (-x)) = γ (Ici x) := by
    conv_lhs => rw [← hmap]
    rw [Measure.map_apply measurable_neg measurableSet_Iic]
    congr 1
    ext y; simp
  have h2 : γ (Ici x) = 1 - γ (Iic x) := by
    rw [← compl_Iio, prob_compl_eq_one_sub measurableSet_Iio, measure_congr Iio_ae_eq_Iic]
  unfold Phi
  rw [h1, h2, ENNReal.toReal_sub_of_le prob_le_one ENNReal.one_ne_top, ENNReal.toReal_one]

theorem phiStd_neg (x : ℝ) : phiStd (-x) = phiStd x := by
  simp [phiStd, gaussianPDFReal]

theorem Phi_zero : Phi 0 = 1 / 2 := by
  have := Phi_neg 0
  rw [neg_zero] at this
  linarith

theorem phiStd_eq (x : ℝ) : phiStd x = (Real.sqrt (2 * Real.pi))⁻¹ * Real.exp (-x ^ 2 / 2) := by
  unfold phiStd gaussianPDFReal
  simp

theorem pdf_closed (t : ℝ) :
    gaussianPDFReal 0 1 t = (Real.sqrt (2 * Real.pi))⁻¹ * Real.exp (-(t / Real.sqrt 2) ^ 2) := by
  rw [show gaussianPDFReal 0 1 t = phiStd t from rfl, phiStd_eq, div_pow, Real.sq_sqrt zero_le_two, neg_div]

/-- **`Φ(x) = ½ (1 + erf(x/√2))`** — the formula `normal_cdf` evaluates -/
theorem Phi_eq_erf (x : ℝ) : Phi x = (1 + erfR (x / Real.sqrt 2)) / 2 := by
  have hs2 : Real.sqrt 2 ≠ 0 := (Real.sqrt_pos.2 two_pos).ne'
  -- substitute `t = √2 s` in the integral of the density
  have hsub : ∫ t in (0:ℝ)..x, gaussianPDFReal 0 1 t
      = (Real.sqrt (2 * Real.pi))⁻¹ * (Real.sqrt 2 * ∫ s in (0:ℝ)..x / Real.sqrt 2, Real.exp (-s ^ 2)) := by
    rw [intervalIntegral.integral_congr (g := fun t => (Real.sqrt (2 * Real.pi))⁻¹ * Real.exp (-(t / Real.sqrt 2) ^ 2))
        (fun t _ => pdf_closed t), intervalIntegral.integral_const_mul,
      intervalIntegral.integral_comp_div (fun s => Real.exp (-s ^ 2)) hs2, smul_eq_mul, zero_div]
  -- the constants: `(2π)^{-1/2} · √2 = π^{-1/2}`, and `erfR` carries `2/√π`
  have hc : (Real.sqrt (2 * Real.pi))⁻¹ * Real.sqrt 2 = (Real.sqrt Real.pi)⁻¹ := by
    rw [Real.sqrt_mul zero_le_two, mul_inv, mul_comm, ← mul_assoc, mul_inv_cancel₀ hs2, one_mul]
  rw [sub_eq_iff_eq_add'.1 (Phi_sub_integral 0 x), Phi_zero, hsub, ← mul_assoc, hc, erfR]
  ring

/-- the form `normal_pdf` evaluates -/
theorem phiStd_closed (x : ℝ) : phiStd x = (Real.sqrt (2 * Real.pi))⁻¹ * Real.exp (-0.5 * x ^ 2) := by
  rw [phiStd_eq]; congr 2; ring

theorem continuous_phiStd : Continuous phiStd := by
  have : phiStd = fun x => (Real.sqrt (2 * Real.pi))⁻¹ * Real.exp (-0.5 * x ^ 2) := funext phiStd_closed
  rw [this]; fun_prop

theorem hasDerivAt_Phi (x : ℝ) : HasDerivAt Phi (phiStd x) x := by
  have h : ∀ y, Phi y = Phi 0 + ∫ t in (0:ℝ)..y, phiStd t := fun y => by
    have := Phi_sub_integral 0 y
    unfold phiStd; linarith
  have hfun : Phi = fun y => Phi 0 + ∫ t in (0:ℝ)..y, phiStd t := funext h
  rw [hfun]
  exact (intervalIntegral.integral_hasDerivAt_right (continuous_phiStd.intervalIntegrable _ _)
    (continuous_phiStd.stronglyMeasurableAtFilter _ _) continuous_phiStd.continuousAt).const_add _

#print axioms Phi_PhiInv
#print axioms Phi_eq_erf
#print axioms hasDerivAt_Phi
end Opda.Normal

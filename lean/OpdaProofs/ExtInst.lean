import OpdaModel.Wire
import Mathlib.Order.BoundedOrder.Basic
import Mathlib.Order.Defs.LinearOrder
import Mathlib.Algebra.Order.Field.Rat
/-!
The driver's value type `Ext` (extended rationals, Bool-valued comparisons) is a linear order with
least element `negInf` and greatest element `posInf`, and its order, decidability and equality
instances are *the ones the executable uses*.  The generic theorems about the discrete models
therefore apply verbatim to the terms the driver evaluates.
-/
namespace Opda.Wire.Ext

theorem lt_iff (x y : Ext) : x < y ↔ lt x y = true := Iff.rfl
theorem le_iff (x y : Ext) : x ≤ y ↔ lt y x = false := by
  show le x y = true ↔ _
  unfold le; cases lt y x <;> simp

-- In each field `simp [lt]` closes every case in which an infinity occurs; the one case it leaves, all arguments `fin`, is the
-- same fact about ℚ, given by the closing `exact`.
instance : LinearOrder Ext where
  le := (· ≤ ·)
  lt := (· < ·)
  le_refl x := by rw [le_iff]; cases x <;> simp [lt]
  le_trans x y z := by
    simp only [le_iff]
    cases x <;> cases y <;> cases z <;> simp [lt]
    exact fun h1 h2 => le_trans h1 h2
  lt_iff_le_not_ge x y := by
    simp only [le_iff, lt_iff]
    cases x <;> cases y <;> simp [lt]
    exact fun h => le_of_lt h
  le_antisymm x y := by
    simp only [le_iff]
    cases x <;> cases y <;> simp [lt]
    exact fun h1 h2 => le_antisymm h1 h2
  le_total x y := by
    simp only [le_iff]
    cases x <;> cases y <;> simp [lt]
    exact le_total _ _
  toDecidableLE := inferInstance
  toDecidableLT := inferInstance
  toDecidableEq := inferInstance

instance : OrderBot Ext where
  bot := negInf
  bot_le x := by show negInf ≤ x; rw [le_iff]; cases x <;> simp [lt]

instance : OrderTop Ext where
  top := posInf
  le_top x := by show x ≤ posInf; rw [le_iff]; cases x <;> simp [lt]

theorem bot_eq : (⊥ : Ext) = negInf := rfl
theorem top_eq : (⊤ : Ext) = posInf := rfl

theorem fin_strictMono : StrictMono fin := fun p q h => by
  rw [lt_iff]; simpa [lt] using h

/-- with `neg_neg`: the quantile duality `Emp.ppf_mirror` applies to negation -/
theorem neg_strictAnti : StrictAnti neg := by
  intro x y h
  rw [lt_iff] at h ⊢
  cases x <;> cases y <;> simp_all [lt, neg]

theorem neg_neg (x : Ext) : neg (neg x) = x := by
  cases x <;> simp [neg]

end Opda.Wire.Ext

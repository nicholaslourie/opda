import OpdaModel.Sample
import OpdaProofs.RealInst
import OpdaProofs.QuadLaw
import OpdaProofs.Emp
import Mathlib.MeasureTheory.Measure.Lebesgue.Basic
import Mathlib.MeasureTheory.Group.Convolution
import Mathlib.Probability.Independence.Basic
import Mathlib.Probability.Distributions.Gaussian.Real
import Mathlib.Tactic

/-!
C13: the law of what the three `sample` methods compute from the generator's primitives.  Noiseless class: the Galois
law of `ppf` and the inverse transform give `P[ppf(U) ≤ y] = cdf(y)`.  `choice`:
`P[ys[searchsortedRight(cumsum w / Σw, U)] ∈ A] = Σ{w_i : y_i ∈ A} / Σw` for every event `A` (so every atom gets its
weight, and `P[· ≤ y]` is the class's cdf).  Noisy class: quadratic part + independent normal, so the law is the
convolution with `N(0, o²)`.  At the end, for C09's `sample` clause (`Props/C09`): the quadratic part of a noisy draw
under the affine map onto the standard member and under the reflection, at every real `u`.
-/
namespace Opda.Sample
open MeasureTheory Set Opda.Emp

/-- numpy's `uniform`/`random` return values in `[0,1)`, the Galois law lives on `(0,1]`: the two events
differ by a subset of `{0, 1}`, which is null. -/
theorem volume_event_Ico_eq_Ioc (p : ℝ → Prop) :
    volume {u : ℝ | u ∈ Ico (0:ℝ) 1 ∧ p u} = volume {u : ℝ | u ∈ Ioc (0:ℝ) 1 ∧ p u} :=
  measure_congr (Ico_ae_eq_Ioc.inter (ae_eq_refl {u | p u}))

/-- law of `QuadraticDistribution.sample`: for `U` uniform on `[0,1)`, `P[ppf(U) ≤ y] = cdf(y)` -/
theorem quad_sample_law (d : Opda.Quad.Params ℝ) (hab : d.a < d.b) (hc : 0 < d.c) (y : ℝ) :
    volume {u : ℝ | u ∈ Ico (0:ℝ) 1 ∧ quadSample d u ≤ y} = ENNReal.ofReal (Opda.Quad.cdf d y) := by
  rw [volume_event_Ico_eq_Ioc]
  exact Opda.Quad.ppf_law d hab hc y

section choice
variable {E : Type}

def weightP (p : E → Prop) [DecidablePred p] : List (E × ℝ) → ℝ
  | [] => 0
  | (u, x) :: rest => (if p u then x else 0) + weightP p rest

theorem weightP_eq_phiSum (p : E → Prop) [DecidablePred p] (l : List (E × ℝ)) :
    weightP p l = phiSum (fun u => if p u then 1 else 0) l := by
  induction l with
  | nil => rfl
  | cons q l ih => simp only [weightP, phiSum_cons, ih, ite_mul, one_mul, zero_mul]

theorem weightP_nonneg (p : E → Prop) [DecidablePred p] (l : List (E × ℝ)) (hn : ∀ q ∈ l, 0 ≤ q.2) :
    0 ≤ weightP p l :=
  weightP_eq_phiSum p l ▸ phiSum_nonneg hn fun _ _ => by split_ifs <;> norm_num

theorem weightP_eq_weightEq [LinearOrder E] (v : E) (l : List (E × ℝ)) : weightP (fun y => y = v) l = weightEq v l := by
  rw [weightP_eq_phiSum, weightEq_eq_phiSum]

theorem weightP_eq_weightLE [LinearOrder E] (y : E) (l : List (E × ℝ)) : weightP (fun v => v ≤ y) l = weightLE y l := by
  rw [weightP_eq_phiSum, weightLE_eq_phiSum]

theorem pickAux_none (tot : ℝ) (htot : 0 < tot) (u : ℝ) (l : List (E × ℝ)) (hn : ∀ q ∈ l, 0 ≤ q.2) (acc : ℝ)
    (h : (acc + total l) / tot ≤ u) : pickAux tot u acc l = none := by
  induction l generalizing acc with
  | nil => rfl
  | cons q rest ih =>
    obtain ⟨y, w⟩ := q
    have hn' : ∀ q ∈ rest, 0 ≤ q.2 := fun q hq => hn q (List.mem_cons_of_mem _ hq)
    simp only [total, ← add_assoc] at h
    have h1 : (acc + w) / tot ≤ u :=
      (div_le_div_of_nonneg_right (le_add_of_nonneg_right (total_nonneg rest hn')) htot.le).trans h
    simp only [pickAux, if_neg (not_lt.mpr h1)]
    exact ih hn' (acc + w) h

theorem pickAux_volume (p : E → Prop) [DecidablePred p] (tot : ℝ) (htot : 0 < tot) (l : List (E × ℝ))
    (hn : ∀ q ∈ l, 0 ≤ q.2) (acc : ℝ) :
    MeasurableSet {u : ℝ | acc / tot ≤ u ∧ ∃ v, pickAux tot u acc l = some v ∧ p v}
      ∧ volume {u : ℝ | acc / tot ≤ u ∧ ∃ v, pickAux tot u acc l = some v ∧ p v}
          = ENNReal.ofReal (weightP p l / tot) := by
  induction l generalizing acc with
  | nil =>
    have : {u : ℝ | acc / tot ≤ u ∧ ∃ v, pickAux (E := E) tot u acc [] = some v ∧ p v} = ∅ :=
      eq_empty_of_forall_notMem fun u ⟨_, v, hv, _⟩ => by cases hv
    rw [this, measure_empty, weightP, zero_div, ENNReal.ofReal_zero]
    exact ⟨MeasurableSet.empty, rfl⟩
  | cons q rest ih =>
    obtain ⟨y, w⟩ := q
    have hw : 0 ≤ w := hn (y, w) List.mem_cons_self
    have hn' : ∀ q ∈ rest, 0 ≤ q.2 := fun q hq => hn q (List.mem_cons_of_mem _ hq)
    obtain ⟨hBm, hBv⟩ := ih hn' (acc + w)
    set B : Set ℝ := {u : ℝ | (acc + w) / tot ≤ u ∧ ∃ v, pickAux tot u (acc + w) rest = some v ∧ p v} with hB
    have hle : acc / tot ≤ (acc + w) / tot := div_le_div_of_nonneg_right (le_add_of_nonneg_right hw) htot.le
    -- the event splits at the first running weight: below it the draw is `y`, above it the search goes on
    have hsplit : {u : ℝ | acc / tot ≤ u ∧ ∃ v, pickAux tot u acc ((y, w) :: rest) = some v ∧ p v}
        = (Ico (acc / tot) ((acc + w) / tot) ∩ {_u | p y}) ∪ B := by
      ext u
      simp only [pickAux, mem_ofPred_eq, mem_union, mem_inter_iff, mem_Ico, hB]
      by_cases hlt : u < (acc + w) / tot
      · rw [if_pos hlt]
        exact ⟨fun ⟨h0, v, hv, hp⟩ => .inl ⟨⟨h0, hlt⟩, Option.some.inj hv ▸ hp⟩, fun h => h.elim
          (fun ⟨⟨h0, _⟩, hp⟩ => ⟨h0, y, rfl, hp⟩) (fun ⟨hge, _⟩ => absurd hlt (not_lt.mpr hge))⟩
      · rw [if_neg hlt]
        exact ⟨fun ⟨_, h⟩ => .inr ⟨not_lt.mp hlt, h⟩, fun h => h.elim
          (fun ⟨⟨_, h1⟩, _⟩ => absurd h1 hlt) (fun ⟨hge, h⟩ => ⟨hle.trans hge, h⟩)⟩
    have hAv : volume (Ico (acc / tot) ((acc + w) / tot) ∩ {_u : ℝ | p y})
        = ENNReal.ofReal ((if p y then w else 0) / tot) := by
      by_cases hp : p y
      · rw [if_pos hp, show {_u : ℝ | p y} = univ from eq_univ_of_forall fun _ => hp, inter_univ, Real.volume_Ico,
          ← sub_div, add_sub_cancel_left]
      · rw [if_neg hp, show {_u : ℝ | p y} = ∅ from eq_empty_of_forall_notMem fun _ => hp, inter_empty, measure_empty,
          zero_div, ENNReal.ofReal_zero]
    have hdisj : Disjoint (Ico (acc / tot) ((acc + w) / tot) ∩ {_u : ℝ | p y}) B :=
      Set.disjoint_left.mpr fun u hu hu' => absurd hu.1.2 (not_lt.mpr hu'.1)
    rw [hsplit]
    refine ⟨(measurableSet_Ico.inter (.const _)).union hBm, ?_⟩
    rw [measure_union hdisj hBm, hAv, hBv, ← ENNReal.ofReal_add
      (div_nonneg (by split_ifs; exacts [hw, le_rfl]) htot.le)
      (div_nonneg (weightP_nonneg p rest hn') htot.le), ← add_div]
    rfl

/-- law of `generator.choice(ys, p=ws)`: for `U` uniform on `[0,1)` and every event `p`,
`P[pick(U) ∈ p] = Σ{w_i : p y_i} / Σ w_i`. -/
theorem pick_volume (p : E → Prop) [DecidablePred p] (obs : List (E × ℝ)) (hn : ∀ q ∈ obs, 0 ≤ q.2)
    (htot : 0 < total obs) :
    volume {u : ℝ | u ∈ Ico (0:ℝ) 1 ∧ ∃ v, pick obs u = some v ∧ p v}
      = ENNReal.ofReal (weightP p obs / total obs) := by
  have key := (pickAux_volume p (total obs) htot obs hn 0).2
  rw [← key]
  congr 1
  ext u
  simp only [mem_ofPred_eq, mem_Ico, zero_div, pick]
  constructor
  · rintro ⟨⟨h0, _⟩, h⟩; exact ⟨h0, h⟩
  · rintro ⟨h0, v, hv, hp⟩
    refine ⟨⟨h0, ?_⟩, v, hv, hp⟩
    by_contra hge
    have := pickAux_none (total obs) htot u obs hn 0 (by rw [zero_add, div_self htot.ne']; exact not_lt.mp hge)
    rw [this] at hv; cases hv

/-- inside `[acc/tot, (acc+Σw)/tot)` the search never falls off the end (numpy's index is in range) -/
theorem pickAux_isSome (tot : ℝ) (u : ℝ) (l : List (E × ℝ)) (acc : ℝ)
    (h0 : acc / tot ≤ u) (h : u < (acc + total l) / tot) : ∃ v, pickAux tot u acc l = some v := by
  induction l generalizing acc with
  | nil =>
    simp only [total, add_zero] at h
    exact absurd h (not_lt.mpr h0)
  | cons q rest ih =>
    obtain ⟨y, w⟩ := q
    by_cases hlt : u < (acc + w) / tot
    · exact ⟨y, by simp only [pickAux, if_pos hlt]⟩
    · simp only [pickAux, if_neg hlt]
      exact ih (acc + w) (not_lt.mp hlt) (by simp only [total] at h; rw [add_assoc]; exact h)

theorem pickAux_support (tot : ℝ) (htot : 0 < tot) (u : ℝ) (l : List (E × ℝ)) (acc : ℝ) (h0 : acc / tot ≤ u) (v : E)
    (hv : pickAux tot u acc l = some v) : ∃ q ∈ l, q.1 = v ∧ 0 < q.2 := by
  induction l generalizing acc with
  | nil => simp [pickAux] at hv
  | cons q rest ih =>
    obtain ⟨y, w⟩ := q
    by_cases hlt : u < (acc + w) / tot
    · simp only [pickAux, if_pos hlt] at hv
      cases hv
      refine ⟨_, List.mem_cons_self, rfl, ?_⟩
      have := lt_of_le_of_lt h0 hlt
      rw [div_lt_div_iff_of_pos_right htot] at this
      linarith
    · simp only [pickAux, if_neg hlt] at hv
      obtain ⟨q, hq, h1, h2⟩ := ih (acc + w) (not_lt.mp hlt) hv
      exact ⟨q, List.mem_cons_of_mem _ hq, h1, h2⟩

/-- the exact-rational evaluation the driver performs is the real-number one -/
theorem pickAux_cast (tot u acc : ℚ) (l : List (E × ℚ)) :
    pickAux (tot : ℝ) (u : ℝ) (acc : ℝ) (l.map fun q => (q.1, (q.2 : ℝ))) = pickAux tot u acc l := by
  induction l generalizing acc with
  | nil => rfl
  | cons q rest ih =>
    obtain ⟨y, w⟩ := q
    simp only [List.map_cons, pickAux]
    have hc : ((u : ℝ) < ((acc : ℝ) + (w : ℝ)) / (tot : ℝ)) ↔ u < (acc + w) / tot := by
      rw [← Rat.cast_add, ← Rat.cast_div, Rat.cast_lt]
    by_cases h : u < (acc + w) / tot
    · rw [if_pos h, if_pos (hc.mpr h)]
    · rw [if_neg h, if_neg (fun h' => h (hc.mp h'))]
      have := ih (acc + w)
      rw [Rat.cast_add] at this
      exact this

theorem total_cast (l : List (E × ℚ)) : total (l.map fun q => (q.1, (q.2 : ℝ))) = ((total l : ℚ) : ℝ) := by
  induction l with
  | nil => simp [total]
  | cons q rest ih => obtain ⟨y, w⟩ := q; simp only [List.map_cons, total, ih, Rat.cast_add]

end choice

section noisy
open ProbabilityTheory

theorem noisySample_eq (d : Opda.Quad.Params ℝ) (o u z : ℝ) : noisySample d o u z = noisyQuadPart d u + o * z := by
  simp [noisySample]

/-- `noisyQuadPart` at `ℝ`: `Quad.ppf_eq` without the clip -/
theorem noisyQuadPart_apply (d : Opda.Quad.Params ℝ) (u : ℝ) :
    noisyQuadPart d u = if d.convex then d.a + (d.b - d.a) * u ^ ((2:ℝ) / d.c)
      else d.b - (d.b - d.a) * (1 - u) ^ ((2:ℝ) / d.c) := by
  simp [noisyQuadPart]

theorem noisyQuadPart_eq (d : Opda.Quad.Params ℝ) (u : ℝ) (h0 : 0 ≤ u) (h1 : u ≤ 1) :
    noisyQuadPart d u = quadSample d u := by
  rw [noisyQuadPart_apply, quadSample, Opda.Quad.ppf_eq, Opda.Quad.clip_of_mem u 0 1 h0 h1]

theorem measurable_noisyQuadPart (d : Opda.Quad.Params ℝ) : Measurable (noisyQuadPart d) := by
  simp only [funext (noisyQuadPart_apply d)]
  split_ifs
  · exact measurable_const.add (measurable_const.mul (measurable_id.pow_const _))
  · exact measurable_const.sub (measurable_const.mul ((measurable_const.sub measurable_id).pow_const _))

/-- `o·Z ~ N(0, o²)` for `Z` standard normal -/
theorem gaussianReal_map_const_mul_std (o : ℝ) :
    (gaussianReal 0 1).map (fun z => o * z) = gaussianReal 0 (.mk (o ^ 2) (sq_nonneg o)) := by
  rw [gaussianReal_map_const_mul]; simp

/-- **law of `NoisyQuadraticDistribution.sample`**: on any probability space, for a uniform draw `U` and an
independent standard normal `Z`, the law of `quadPart(U) + o·Z` is the convolution of the law of the quadratic
part with `N(0, o²)`.  (What is definitional: the code *is* this sum; that the sum of independent variables
has the convolution as its law, and that `o·Z ~ N(0, o²)`, are Mathlib theorems.) -/
theorem noisy_law {Ω : Type} [MeasurableSpace Ω] (P : Measure Ω) [IsProbabilityMeasure P] (U Z : Ω → ℝ)
    (hU : Measurable U) (hZ : Measurable Z) (hind : IndepFun U Z P) (hZlaw : P.map Z = gaussianReal 0 1)
    (d : Opda.Quad.Params ℝ) (o : ℝ) :
    P.map (fun ω => noisySample d o (U ω) (Z ω))
      = (P.map (fun ω => noisyQuadPart d (U ω))) ∗ gaussianReal 0 (.mk (o ^ 2) (sq_nonneg o)) := by
  have hm : Measurable (fun z : ℝ => o * z) := measurable_const_mul o
  have hX : Measurable (fun ω => noisyQuadPart d (U ω)) := (measurable_noisyQuadPart d).comp hU
  have hW : Measurable (fun ω => o * Z ω) := hm.comp hZ
  have hXW : IndepFun (fun ω => noisyQuadPart d (U ω)) (fun ω => o * Z ω) P :=
    hind.comp (φ := noisyQuadPart d) (ψ := fun z => o * z) (measurable_noisyQuadPart d) hm
  have hsum : (fun ω => noisySample d o (U ω) (Z ω)) = (fun ω => noisyQuadPart d (U ω)) + (fun ω => o * Z ω) := by
    funext ω; simp [noisySample_eq]
  have hWlaw : P.map (fun ω => o * Z ω) = gaussianReal 0 (.mk (o ^ 2) (sq_nonneg o)) := by
    rw [show (fun ω => o * Z ω) = (fun z => o * z) ∘ Z from rfl, ← Measure.map_map hm hZ, hZlaw,
      gaussianReal_map_const_mul_std]
  rw [hsum, hXW.map_add_eq_map_conv_map hX hW, hWlaw]

end noisy

/- C09, the `sample` clause (`Props/C09.lean`, section `sample`): the quadratic part at every real `u`.  Location–scale: the
part of `D` is `a + (b−a)` times the part of `D₀` at the same `u`.  Reflection: the mirrored instance
`D' = (−b, −a, c, ¬convex)` fed with the complementary uniform `1 − u` returns minus the part. -/

open Opda.Quad in
theorem noisyQuadPart_affine (d : Opda.Quad.Params ℝ) (u : ℝ) :
    noisyQuadPart d u = d.a + (d.b - d.a) * noisyQuadPart (std0 d) u := by
  rw [noisyQuadPart_apply, noisyQuadPart_apply]
  cases hcv : d.convex <;> simp only [std0, hcv, Bool.false_eq_true, if_true, if_false] <;> ring

open Opda.Quad in
theorem noisyQuadPart_reflect (d : Opda.Quad.Params ℝ) (u : ℝ) :
    noisyQuadPart d u = - noisyQuadPart (reflect d) (1 - u) := by
  rw [noisyQuadPart_apply, noisyQuadPart_apply]
  cases hcv : d.convex <;>
    simp only [reflect, hcv, Bool.not_true, Bool.not_false, Bool.false_eq_true, if_true, if_false, sub_sub_cancel] <;>
    ring

end Opda.Sample

import OpdaProofs.TableCert
/-!
Structure and selection theorems about the translated table, and the membership form of the accuracy statement.
-/

namespace Opda.Table
open Opda.Gen Opda.PolyCheck

theorem mem_allPieces (T : List (Nat × List EntryQ)) (ri ei pi : Nat) (row : Nat × List EntryQ) (e : EntryQ)
    (hr : T[ri]? = some row) (he : row.2[ei]? = some e) (hp : pi < e.coeffs.length) :
    (ri, ei, pi) ∈ allPieces T := by
  unfold allPieces
  rw [List.mem_flatMap]
  have hri : ri < T.length := by
    rcases List.getElem?_eq_some_iff.mp hr with ⟨h, _⟩; exact h
  refine ⟨ri, List.mem_range.mpr hri, ?_⟩
  simp only [hr]
  rw [List.mem_flatMap]
  have hei : ei < row.2.length := by
    rcases List.getElem?_eq_some_iff.mp he with ⟨h, _⟩; exact h
  refine ⟨ei, List.mem_range.mpr hei, ?_⟩
  simp only [he]
  rw [List.mem_map]
  exact ⟨pi, List.mem_range.mpr hp, rfl⟩

theorem entry_spec {T : List (ℕ × List EntryQ)} (hs : structOK T = true) {row : ℕ × List EntryQ} (hrow : row ∈ T)
    {e : EntryQ} (he : e ∈ row.2) :
    rowOK row = true ∧ strictlyIncreasing e.knots = true ∧ e.knots.head? = some 0 ∧ e.knots.getLast? = some 1
      ∧ e.coeffs.length + 1 = e.knots.length ∧ 0 < e.maxError := by
  have hrowOK : rowOK row = true := List.all_eq_true.mp hs row hrow
  have heOK : entryOK e = true := by
    simp only [rowOK, Bool.and_eq_true] at hrowOK
    exact List.all_eq_true.mp hrowOK.1.1 e he
  simpa [entryOK, and_assoc] using And.intro hrowOK heOK

theorem bound_of_certs {T : List (ℕ × List EntryQ)} (hb : ∀ t ∈ allPieces T, PieceBound T t.1 t.2.1 t.2.2)
    {ri ei pi : ℕ} {row : ℕ × List EntryQ} {e : EntryQ} {cs : List ℚ} {lo hi : ℚ}
    (hri : T[ri]? = some row) (hei : row.2[ei]? = some e) (hcs : e.coeffs[pi]? = some cs)
    (hlo : e.knots[pi]? = some lo) (hhi : e.knots[pi + 1]? = some hi) (x : ℝ) (h1 : (lo : ℝ) ≤ x) (h2 : x ≤ (hi : ℝ)) :
    |evalQ cs x - x ^ ((row.1 : ℝ) / 2)| ≤ ((slack * e.maxError : ℚ) : ℝ) := by
  obtain ⟨m2, cs', klo, khi, me, hpiece, hbound⟩ :=
    hb (ri, ei, pi) (mem_allPieces T ri ei pi row e hri hei (List.getElem?_eq_some_iff.mp hcs).1)
  simp only [piece?, hri, hei, hcs, hlo, hhi, Option.some.injEq, Prod.mk.injEq] at hpiece
  obtain ⟨rfl, rfl, rfl, rfl, rfl⟩ := hpiece
  exact hbound x h1 h2

theorem bracket_of_ends : ∀ (l : List ℚ) (a b : ℚ), l.head? = some a → l.getLast? = some b → 2 ≤ l.length →
    ∀ x : ℝ, (a : ℝ) ≤ x → x ≤ (b : ℝ) →
      ∃ (i : ℕ) (lo hi : ℚ), l[i]? = some lo ∧ l[i + 1]? = some hi ∧ (lo : ℝ) ≤ x ∧ x ≤ (hi : ℝ)
  | [], _, _, _, _, h2, _, _, _ => by simp at h2
  | [_], _, _, _, _, h2, _, _, _ => by simp at h2
  | [u, v], a, b, ha, hb, _, x, hx1, hx2 => by
    simp only [List.head?_cons, Option.some.injEq] at ha
    simp only [List.getLast?_cons_cons, List.getLast?_singleton, Option.some.injEq] at hb
    subst ha; subst hb
    exact ⟨0, u, v, by simp, by simp, hx1, hx2⟩
  | u :: v :: w :: rest, a, b, ha, hb, _, x, hx1, hx2 => by
    simp only [List.head?_cons, Option.some.injEq] at ha
    subst ha
    by_cases hxv : x ≤ (v : ℝ)
    · exact ⟨0, u, v, by simp, by simp, hx1, hxv⟩
    · have hb' : (v :: w :: rest).getLast? = some b := by
        rw [List.getLast?_cons_cons] at hb; exact hb
      obtain ⟨i, lo, hi, h1, h2, h3, h4⟩ :=
        bracket_of_ends (v :: w :: rest) v b rfl hb' (by simp) x (le_of_lt (not_le.mp hxv)) hx2
      exact ⟨i + 1, lo, hi, by simpa using h1, by simpa using h2, h3, h4⟩

/-- **C19, uniform accuracy, membership form.**  If the table is structurally well formed and every index triple
carries a piece bound, then for every row (exponent `m2/2`), every entry of it and **every real `x ∈ [0,1]`** there
is a piece whose knots bracket `x` and whose polynomial is within `1.02 · max_error` of `x ^ (m2/2)` at `x`. -/
theorem accuracy_of_certs (T : List (Nat × List EntryQ)) (hs : structOK T = true)
    (hb : ∀ t ∈ allPieces T, PieceBound T t.1 t.2.1 t.2.2)
    (row : Nat × List EntryQ) (hrow : row ∈ T) (e : EntryQ) (he : e ∈ row.2)
    (x : ℝ) (hx0 : 0 ≤ x) (hx1 : x ≤ 1) :
    ∃ (pi : ℕ) (cs : List ℚ) (lo hi : ℚ), e.coeffs[pi]? = some cs ∧ e.knots[pi]? = some lo ∧ e.knots[pi + 1]? = some hi ∧
      (lo : ℝ) ≤ x ∧ x ≤ (hi : ℝ) ∧
      |evalQ cs x - x ^ ((row.1 : ℝ) / 2)| ≤ ((slack * e.maxError : ℚ) : ℝ) := by
  obtain ⟨ri, hri⟩ := List.getElem?_of_mem hrow
  obtain ⟨ei, hei⟩ := List.getElem?_of_mem he
  obtain ⟨-, -, hhead, hlast, hlen, -⟩ := entry_spec hs hrow he
  -- the first knot is 0 and the last is 1, so there are at least two
  have hlen2 : 2 ≤ e.knots.length := by
    rcases hk : e.knots with _ | ⟨u, _ | ⟨v, rest⟩⟩
    · rw [hk] at hhead; simp at hhead
    · rw [hk] at hhead hlast
      simp only [List.head?_cons, Option.some.injEq] at hhead
      simp only [List.getLast?_singleton, Option.some.injEq] at hlast
      rw [hhead] at hlast; norm_num at hlast
    · simp
  obtain ⟨pi, lo, hi, hlo, hhi, hx_lo, hx_hi⟩ :=
    bracket_of_ends e.knots 0 1 hhead hlast hlen2 x (by simpa using hx0) (by simpa using hx1)
  have hpi : pi < e.coeffs.length := by
    rcases List.getElem?_eq_some_iff.mp hhi with ⟨h, _⟩
    omega
  obtain ⟨cs, hcs⟩ : ∃ cs, e.coeffs[pi]? = some cs := ⟨e.coeffs[pi], List.getElem?_eq_getElem hpi⟩
  exact ⟨pi, cs, lo, hi, hcs, hlo, hhi, hx_lo, hx_hi, bound_of_certs hb hri hei hcs hlo hhi x hx_lo hx_hi⟩

theorem pairwise_of_strictlyDecreasing : ∀ {l : List Rat}, strictlyDecreasing l = true → l.Pairwise (· > ·)
  | [], _ => List.Pairwise.nil
  | [_], _ => List.pairwise_singleton _ _
  | x :: y :: rest, h => by
    simp only [strictlyDecreasing, Bool.and_eq_true, decide_eq_true_eq] at h
    have ih := pairwise_of_strictlyDecreasing h.2
    refine List.pairwise_cons.mpr ⟨fun z hz => ?_, ih⟩
    rcases List.mem_cons.mp hz with rfl | hz'
    · exact h.1
    · exact lt_trans ((List.pairwise_cons.mp ih).1 z hz') h.1

/-- **every scale selects exactly one entry**: for a well-formed row and every `scale ≥ 0` the code's rule "first entry with
`scale ≥ min_scale`" finds an entry; its `min_scale` is at most `scale`, every entry before it has `min_scale > scale`, and,
the `min_scale`s being strictly decreasing, every entry after it has a smaller `min_scale` than the selected one: its
half-open scale range is the only one that contains `scale`. -/
theorem select_unique (row : Nat × List EntryQ) (h : rowOK row = true) (scale : ℚ) (hs : 0 ≤ scale) :
    ∃ e, select row.2 scale = some e ∧ e ∈ row.2 ∧ e.minScale ≤ scale ∧
      ∃ i : ℕ, row.2[i]? = some e ∧ (∀ j, j < i → ∀ e' : EntryQ, row.2[j]? = some e' → scale < e'.minScale)
        ∧ ∀ j, i < j → ∀ e' : EntryQ, row.2[j]? = some e' → e'.minScale < e.minScale := by
  unfold rowOK at h
  simp only [Bool.and_eq_true, decide_eq_true_eq] at h
  obtain ⟨⟨_, hdec⟩, hlast⟩ := h
  have hmem0 : (0 : ℚ) ∈ row.2.map (·.minScale) := List.mem_of_getLast? hlast
  obtain ⟨e0, he0, hz⟩ := List.mem_map.mp hmem0
  have hsome : (select row.2 scale).isSome = true := by
    unfold select
    rw [List.find?_isSome]
    exact ⟨e0, he0, by simpa [hz] using hs⟩
  obtain ⟨e, he⟩ := Option.isSome_iff_exists.mp hsome
  unfold select at he
  obtain ⟨hp, i, hi, hget, hbefore⟩ := List.find?_eq_some_iff_getElem.mp he
  subst hget
  refine ⟨_, he, List.getElem_mem hi, by simpa using hp, i, List.getElem?_eq_getElem hi, fun j hj e' he' => ?_,
    fun j hij e' he' => ?_⟩
  · obtain ⟨hj', rfl⟩ := List.getElem?_eq_some_iff.mp he'
    simpa using hbefore j hj
  · obtain ⟨hj', rfl⟩ := List.getElem?_eq_some_iff.mp he'
    exact List.pairwise_iff_getElem.mp (List.pairwise_map.mp (pairwise_of_strictlyDecreasing hdec)) i j hi hj' hij

/-- **every scale selects an entry**: for a well-formed row and every `scale ≥ 0` the code's rule
"first entry with `scale ≥ min_scale`" finds an entry, its `min_scale` is at most `scale`, and every entry
before it has `min_scale > scale` (so, `min_scale` being strictly decreasing, it is the unique entry whose
half-open scale range contains `scale`). -/
theorem select_total_unique (row : Nat × List EntryQ) (h : rowOK row = true) (scale : ℚ) (hs : 0 ≤ scale) :
    ∃ e, select row.2 scale = some e ∧ e ∈ row.2 ∧ e.minScale ≤ scale ∧
      ∃ i : ℕ, row.2[i]? = some e ∧ ∀ j, j < i → ∀ e' : EntryQ, row.2[j]? = some e' → scale < e'.minScale :=
  let ⟨e, hsel, hmem, hle, i, hi, hbefore, _⟩ := select_unique row h scale hs
  ⟨e, hsel, hmem, hle, i, hi, hbefore⟩

end Opda.Table

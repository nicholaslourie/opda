import Mathlib.Algebra.BigOperators.Ring.Finset
import Mathlib.Algebra.BigOperators.Pi
import Mathlib.Data.Fintype.BigOperators
import Mathlib.Data.Real.Basic
import Mathlib.Tactic
import Mathlib.Data.Finset.Powerset
import Mathlib.Combinatorics.Enumerative.Composition
import Mathlib.Algebra.BigOperators.Group.Finset.Basic
import Mathlib.Data.Nat.Choose.Basic

/-!
Two finite identities behind the tuning curves, and the U-statistic weight `Emp.uWeightAt` the second one is about
(Mathlib only).

C04-T2': for a discrete distribution with atoms `y j` and weights `w j` (`j : Fin N`), the
probability (under the `n`-fold product weights) that all `n` draws are `≤ t` — i.e. that their
maximum is `≤ t` — is `F(t)^n`, `F(t) = Σ{w j : y j ≤ t}`.  This identifies the code's
`_ws_cumsum ** n` with the CDF of the best of `n` i.i.d. draws, for integer `n`.

C04-T4: the u-statistic weights `C(i,n) − C(i−1,n)` count the `n`-subsets whose best (largest-index)
element is the `i`-th order statistic, so `u_tuning_curve(n)` is the mean over all subsets of size `n`
of their best element.  The weight itself, with the normaliser `C(N,n)`, is `Emp.uWeightAt`.
-/
namespace Opda.MaxOfN
open Finset

theorem cdf_pow_eq_prob_all_le {N : ℕ} (y w : Fin N → ℝ) (t : ℝ) (n : ℕ) :
    (∑ j, if y j ≤ t then w j else 0) ^ n
      = ∑ g : Fin n → Fin N, if (∀ i, y (g i) ≤ t) then ∏ i, w (g i) else 0 := by
  rw [Finset.sum_pow', Fintype.piFinset_univ]
  exact sum_congr rfl fun g _ => by rw [Finset.prod_ite_zero]; simp

#print axioms cdf_pow_eq_prob_all_le
end Opda.MaxOfN

namespace Opda.UStat
open Finset

/-- Induction on `N`: the `(m+1)`-subsets of `range (N+1)` either avoid `N` (those of `range N`) or contain it; the latter are
`insert N T` with `T` an `m`-subset of `range N`, have `sup = N`, and there are `C(N, m)` of them. -/
theorem sum_powersetCard_sup (f : ℕ → ℝ) (m N : ℕ) :
    ∑ S ∈ powersetCard (m+1) (range N), f (S.sup id) = ∑ j ∈ range N, (j.choose m : ℝ) * f j := by
  induction N with
  | zero =>
    have : powersetCard (m+1) (range 0) = (∅ : Finset (Finset ℕ)) := by
      apply powersetCard_eq_empty.mpr; simp
    rw [this]; simp
  | succ N ih =>
    have hN : N ∉ range N := by simp
    rw [range_add_one, powersetCard_succ_insert hN, sum_union, ih, sum_insert hN]
    · have himg : ∑ S ∈ (powersetCard m (range N)).image (insert N), f (S.sup id)
          = ∑ T ∈ powersetCard m (range N), f N := by
        rw [sum_image]
        · apply sum_congr rfl
          intro T hT
          have hTsub : T ⊆ range N := (mem_powersetCard.mp hT).1
          have : (insert N T).sup id = N := by
            rw [sup_insert]
            apply le_antisymm
            · apply sup_le (le_refl _)
              apply Finset.sup_le
              intro i hi
              exact (mem_range.mp (hTsub hi)).le
            · exact le_sup_left
          rw [this]
        · intro T hT T' hT' h
          have hT1 : N ∉ T := fun h => hN ((mem_powersetCard.mp hT).1 h)
          have hT2 : N ∉ T' := fun h => hN ((mem_powersetCard.mp hT').1 h)
          have := congrArg (fun S => S.erase N) h
          simpa [erase_insert hT1, erase_insert hT2] using this
      rw [himg, sum_const, card_powersetCard, card_range, nsmul_eq_mul]
      ring
    · rw [disjoint_left]
      intro S hS hS'
      obtain ⟨T, _, rfl⟩ := mem_image.mp hS'
      have : N ∈ range N := (mem_powersetCard.mp hS).1 (mem_insert_self N T)
      exact hN this

/-- **C04-T4**: for every `N`, every `1 ≤ n` and every value function `y`,
`Σ_j [C(j+1,n) − C(j,n)] y_j = Σ_{|S|=n} y_{max S}`; dividing by `C(N,n)` gives the mean.  When `y` lists the sample in
non-decreasing order, the element of a subset with the largest index is its best one, which is how the identity is read. -/
theorem u_stat (y : ℕ → ℝ) (m N : ℕ) :
    ∑ j ∈ range N, (((j+1).choose (m+1) : ℝ) - (j.choose (m+1) : ℝ)) * y j
      = ∑ S ∈ powersetCard (m+1) (range N), y (S.sup id) := by
  rw [sum_powersetCard_sup]
  apply sum_congr rfl
  intro j _
  -- the code's weights, by Pascal's rule: `C(j+1, m+1) − C(j, m+1) = C(j, m)`
  rw [Nat.choose_succ_succ]; push_cast; ring

#print axioms u_stat
end Opda.UStat

namespace Opda.Emp

/-- the U-statistic weight of the `(j+1)`-th smallest observation written with `Nat.choose`; the model's list `uWeights`
(multiplicative binomial `chooseFast`) consists of these: `Props.C04.u_weights_model`.  Real-valued because the two
statements about it, that one and `Props.C04.u_curve_is_subset_mean` (through `UStat.u_stat`), are about ℝ. -/
noncomputable def uWeightAt (n N j : ℕ) : ℝ :=
  ((((j + 1).choose (min n N) : ℕ) : ℝ) - ((j.choose (min n N) : ℕ) : ℝ)) / ((N.choose (min n N) : ℕ) : ℝ)

end Opda.Emp

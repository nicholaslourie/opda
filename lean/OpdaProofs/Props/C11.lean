import OpdaProofs.Audit
import OpdaProofs.ExtInst
import OpdaProofs.Fit
import OpdaProofs.FitPlan
import OpdaProofs.FitInv
/-!
# C11 — `fit` is total, feasible, and invariant to order and to censored values

The property theorems of C11, about the executable model of `fit`'s decision logic (`OpdaModel/FitPlan.lean`,
`OpdaModel/Fit.lean`).  The lemmas live in `OpdaProofs/Fit.lean`, `FitPlan.lean`, `FitInv.lean`; the short proofs
that have no other user stand here, under their statements (T2, the population sizes of T3, T4).  Black boxes (parameters of the model): scipy's optimiser, `np.round`, the factors
`w`, `v`, the raw initial estimates, the order of `sorted(...)`.

Compared only (harness/corr_C11.py), not proved: that the *returned object* is invariant (it is what the
black-box optimiser makes of invariant inputs and an equal seed); for the noisy class with the noise pinned
to 0, that the support contains the observations (it follows from the finiteness of the loss, not from the
box); float rounding.
-/
namespace Opda.Props.C11
open Opda.Fit Opda.Wire

section inv
variable {α : Type} [LinearOrder α] [Sub α] [Add α] [Mul α]

/-- **T1.** Everything handed to the optimiser — sample size and censored counts, the outcome of the
pre-loop checks, which parameters are free, the population size, and for every `convex` the four boxes,
the support edges, the bucket edges `zs` and the bucket counts `ks` — is unchanged by any permutation of
the sample (`rndOf` = `np.round` with the `decimals` computed from the observed values). -/
theorem fit_inputs_perm_invariant (zero negInf posInf : α) (rndOf : List α → α → α)
    (hr : ∀ l l' : List α, l.Perm l' → rndOf l = rndOf l') (cls : Cls) (lo hi : α) (cA cB : Cons α)
    (cC : Cons Int) (cO : Cons α) (cf : Bool) (ws : List α) (v : α) {ys ys' : List α} (h : ys.Perm ys') :
    fitInputs zero negInf posInf rndOf cls lo hi cA cB cC cO cf ws v ys
      = fitInputs zero negInf posInf rndOf cls lo hi cA cB cC cO cf ws v ys' :=
  Opda.Fit.fit_inputs_perm_invariant zero negInf posInf rndOf hr cls lo hi cA cB cC cO cf ws v h

/-- **T2.** … and by any change of censored observations that keeps each on its side of the limits. -/
theorem fit_inputs_censored_value_invariant (zero negInf posInf : α) (rndOf : List α → α → α) (cls : Cls)
    (lo hi : α) (hlh : lo < hi) (cA cB : Cons α) (cC : Cons Int) (cO : Cons α) (cf : Bool) (ws : List α) (v : α)
    {ys ys' : List α} (h : List.Forall₂ (SameSide lo hi) ys ys') :
    fitInputs zero negInf posInf rndOf cls lo hi cA cB cC cO cf ws v ys
      = fitInputs zero negInf posInf rndOf cls lo hi cA cB cC cO cf ws v ys' := by
  unfold fitInputs
  rw [censor_sameSide lo hi hlh h]

/-- the bucket construction alone (the term the driver evaluates) does not see the order of the observations -/
theorem buckets_perm_invariant {obs obs' : List α} (h : obs.Perm obs') (e : α) (ll lu : Option α) (e' : α)
    (nl nu : Nat) :
    zsModel e ll obs lu e' = zsModel e ll obs' lu e' ∧
      ksModel? e ll obs lu e' nl nu = ksModel? e ll obs' lu e' nl nu := buckets_perm h e ll lu e' nl nu

end inv

theorem buckets_perm_invariant_driver {obs obs' : List Ext} (h : obs.Perm obs') (e : Ext) (ll lu : Option Ext)
    (e' : Ext) (nl nu : Nat) :
    zsModel e ll obs lu e' = zsModel e ll obs' lu e' ∧
      ksModel? e ll obs lu e' nl nu = ksModel? e ll obs' lu e' nl nu := buckets_perm (α := Ext) h e ll lu e' nl nu

example : List.Forall₂ (SameSide (α := Int) 2 7) [1, 5, 9, 7] [-3, 5, 100, 7] := by
  refine .cons (Or.inl ⟨by decide, by decide⟩) (.cons (Or.inr (Or.inr ⟨by decide, by decide, rfl⟩))
    (.cons (Or.inr (Or.inl ⟨by decide, by decide⟩)) (.cons (Or.inr (Or.inr ⟨by decide, by decide, rfl⟩)) .nil)))

section pop
variable {α : Type} [LinearOrder α]

/-- **T3 (noiseless class).** `len(initial_population) = |cs| · 9` if `a` or `b` is fitted, `|cs|` otherwise. -/
theorem population_size_quad (fr : Free) (hfo : fr.o = false) (ofInt : Int → α) (rawA rawB : Int → Int → α)
    (aB bB : Box α) (cs : List Int) :
    (initPopQuad fr ofInt rawA rawB aB bB cs).length = popSize .quad fr cs.length := by
  refine length_flatMap_const _ _ _ fun c _ => ?_
  rw [candProduct_length, List.length_map, List.length_map, dsQuad_length, grid_length, hfo]
  -- `3 · 3 = 9`: nine candidates per `c` whether one or both of `a`, `b` are fitted; the `c` slot holds one value,
  -- the `o` slot is absent
  simp only [List.length_cons, List.length_nil, ite_self, Nat.mul_one, Nat.reduceMul, Nat.zero_add,
    Bool.false_eq_true, if_false]

/-- **T3 (noisy class).** `len(initial_population) = min(90, |cs| · (7 if a, b or o is fitted else 1) ·
(4 if a or b is fitted else 1))`. -/
theorem population_size_noisy (sortByLoss : List (List α) → List (List α))
    (hsort : ∀ l, (sortByLoss l).length = l.length) (fr : Free) (ofInt : Int → α)
    (rawA rawB : Int → Nat → Int → α) (rawO : Int → Nat → α) (aB bB oB : Box α) (cs : List Int) :
    (initPopNoisy sortByLoss fr ofInt rawA rawB rawO aB bB oB cs).length = popSize .noisy fr cs.length := by
  rw [initPopNoisy, List.length_take, hsort, initPopNoisyRaw_length, ← Nat.mul_assoc, Nat.min_comm]
  -- `popSize` writes `min(raw, 90)` as `if raw < 90 then raw else 90`
  exact min_def_lt _ 90

end pop

/-- **T3 (F3: a defect of the code up to /repo commit `2124e35`, from which on the population is topped up to five;
the theorem says exactly where the top-up is needed).** The initial estimates number fewer than scipy's minimum of five
exactly when `a`, `b` (and `o`) are fixed and `c` is fitted over at most four values. -/
theorem population_below_scipy_minimum_iff (cls : Cls) (fr : Free) (ncs : Nat) (h1 : 1 ≤ ncs)
    (hc : fr.c = false → ncs = 1) (hq : cls = .quad → fr.o = false) :
    (0 < nBounds fr ∧ popSize cls fr ncs < scipyMinPop)
      ↔ (fr.a = false ∧ fr.b = false ∧ fr.o = false ∧ fr.c = true ∧ ncs ≤ 4) := by
  -- the table over the class and `a`, `b`, `o`; `c` enters through `b2n c` only, so that in each row what
  -- is left is linear arithmetic in `ncs` and `b2n c`
  obtain ⟨a, b, c, o⟩ := fr
  rw [← b2n_pos c]
  cases cls <;> cases a <;> cases b <;> cases o <;>
    simp only [popSize, ← min_def_lt, nBounds, scipyMinPop, Bool.or_self, Bool.or_true, Bool.or_false,
      if_true, if_false, Bool.false_eq_true, reduceCtorEq, forall_const, true_and, false_and, iff_false, not_and,
      not_lt, imp_false, show b2n false = 0 from rfl, show b2n true = 1 from rfl] at hq ⊢ <;>
    omega

/-- witness: `constraints={"a": 0, "b": 1, "c": (6, 7)}` gives a population of 2 for one coordinate -/
theorem F3_witness :
    nCs (.interval 6 7) = 2 ∧ nBounds ⟨false, false, true, false⟩ = 1 ∧
      popSize .quad ⟨false, false, true, false⟩ (nCs (.interval 6 7)) = 2 ∧
      popSize .noisy ⟨false, false, true, false⟩ (nCs (.interval 6 7)) = 2 := by decide

section buckets
variable {E : Type} [LinearOrder E]

/-- **T4.** The positional fix-ups are defined (no `IndexError`) iff there is at least one bucket when
observations are censored below and at least two when observations are censored above. -/
theorem ks_index_defined_iff (edgeLo : E) (ll : Option E) (obs : List E) (lu : Option E) (edgeHi : E)
    (nLower nUpper : Nat) :
    (ksModel? edgeLo ll obs lu edgeHi nLower nUpper).isSome ↔
      (ll.isSome → 2 ≤ (zsModel edgeLo ll obs lu edgeHi).length) ∧
      (lu.isSome → 3 ≤ (zsModel edgeLo ll obs lu edgeHi).length) := by
  -- `ks = counts[1:]` has one entry less than there are edges
  rw [ksModel?, fixups_isSome_iff]
  simp only [zsModel, List.length_tail, List.length_map]
  exact and_congr (imp_congr_right fun _ => by omega) (imp_congr_right fun _ => by omega)

/-- under the side conditions (A), (B) of C10-T1 the fix-ups are always defined -/
theorem ks_index_defined_of_side_conditions (edgeLo : E) (ll : Option E) (obs : List E) (lu : Option E)
    (edgeHi : E) (nLower nUpper : Nat) (H : BucketHyps edgeLo ll obs lu edgeHi) :
    (ksModel? edgeLo ll obs lu edgeHi nLower nUpper).isSome := by
  rw [buckets_model_eq_spec false edgeLo ll obs lu edgeHi nLower nUpper H]; rfl

end buckets

/-- witness (F2; `IndexError` up to /repo commit `b238e9d`, `OptimizationError` from it on): all uncensored
observations equal to the upper limit, box collapsed onto it -/
theorem F2_witness : ksModel? (E := Nat) 1 none [1, 1, 1, 1, 1] (some 1) 1 0 1 = none ∧
    ksModel? (E := Nat) 0 none [] (some 8) 8 0 2 = none := by decide

section feas
variable {α : Type} [LinearOrder α]

/-- **T5 (box ⊆ constraints).** The box of `a`, `b`, `o` is the constraint when it fixes the value, and a
sub-interval of the constraint and of the data-driven default otherwise. -/
theorem box_subset_constraint (dLo dHi : α) (c : Cons α) :
    match c with
    | .absent => boxOf dLo dHi c = ⟨dLo, dHi⟩
    | .fixed v => boxOf dLo dHi c = ⟨v, v⟩
    | .interval lo hi => lo ≤ (boxOf dLo dHi c).lo ∧ (boxOf dLo dHi c).hi ≤ hi ∧
        dLo ≤ (boxOf dLo dHi c).lo ∧ (boxOf dLo dHi c).hi ≤ dHi := boxOf_subset dLo dHi c

/-- **T5 (`c`).** Every candidate shape is an integer of `1..10` inside its constraint. -/
theorem c_candidates_within (cC : Cons Int) :
    (match cC with
      | .fixed v => cBox cC = ⟨v, v⟩
      | .absent => cBox cC = ⟨1, 10⟩
      | .interval lo hi => lo ≤ (cBox cC).lo ∧ (cBox cC).hi ≤ hi ∧ 1 ≤ (cBox cC).lo ∧ (cBox cC).hi ≤ 10) ∧
    ∀ c ∈ csList cC, (cBox cC).lo ≤ c ∧ c ≤ (cBox cC).hi := ⟨cBox_within cC, csList_mem cC⟩

/-- **T5 (the support contains the data) — partial.** Proved for the noiseless class: after the pre-loop
checks, every `a` of the box is `≤` every uncensored observation, every `b` of the box is `≥`, and the box
reaches each limit beyond which observations were censored — so *any* vector the optimiser returns inside
its box has the property.  Missing: the noisy class with the noise pinned to 0, where the box of `a`, `b`
is not cut at `y_min`, `y_max` and the clause rests on the finiteness of the loss (compared by
`corr_C11.py`; on /repo as it is the clause fails when an observation sits on an end of the box — finding F9 in
`known_findings.json`). -/
theorem support_contains_observations_partial [Sub α] [Add α] [Mul α] (zero negInf posInf : α) (ys : List α)
    (lo hi : α) (cA cB cO : Cons α) (cC : Cons Int) (cFloatPair : Bool) (st : Stats α) (w v : α)
    (p : ConvexPlan α)
    (hpre : precheck zero .quad (censor ys lo hi) lo hi cA cB cO cFloatPair = .ok st)
    (hplan : planConvex zero negInf posInf .quad st (st.yMax - st.yMin) w v cA cB cC cO = .ok p) :
    (∀ y ∈ (censor ys lo hi).observed, p.aBox.hi ≤ y ∧ y ≤ p.bBox.lo) ∧
      (0 < (censor ys lo hi).nLower → p.aBox.hi ≤ lo) ∧ (0 < (censor ys lo hi).nUpper → hi ≤ p.bBox.lo) :=
  quad_box_feasible zero negInf posInf ys lo hi cA cB cO cC cFloatPair st w v p hpre hplan

end feas

section exc
variable {α : Type} [LinearOrder α]

/-- **T6 (malformed arguments).** The validation prefix rejects only with `ValueError` / `TypeError`. -/
theorem validation_raises_value_or_type_error (zero one ten : α) (isInt : α → Bool) (cls : Cls) (ys : YsDesc)
    (lim : LimDesc) (items : List (ConsItem α)) (e : Exc)
    (h : validate zero one ten isInt cls ys lim items = some e) : e = .valueError ∨ e = .typeError :=
  validate_raises zero one ten isInt cls ys lim items e h

/-- **T6 (valid arguments, before the loop).** Only `ValueError` — except the `TypeError` of `range()` on a
`c` interval with float end points (finding F8; repaired in /repo by `c67d8cb`, DESIGN §8.4). -/
theorem precheck_raises_value_error (zero : α) (cls : Cls) (c : Censored α) (lo hi : α) (cA cB cO : Cons α)
    (cFloatPair : Bool) (e : Exc) (h : precheck zero cls c lo hi cA cB cO cFloatPair = .error e) :
    e = .valueError ∨ (e = .rangeTypeError ∧ cFloatPair = true) :=
  precheck_raises zero cls c lo hi cA cB cO cFloatPair e h

/-- **T6 (box construction).** Only `OptimizationError`. -/
theorem box_raises_optimization_error [Sub α] [Add α] [Mul α] (zero negInf posInf : α) (cls : Cls)
    (st : Stats α) (range w v : α) (cA cB : Cons α) (cC : Cons Int) (cO : Cons α) (e : Exc)
    (h : planConvex zero negInf posInf cls st range w v cA cB cC cO = .error e) : e = .optimizationError :=
  planConvex_raises zero negInf posInf cls st range w v cA cB cC cO e h

/-- **T6 (the loop and after).** Beyond `OptimizationError` the loop can only end in an exception of the
box construction, in `IndexError` when some pass ran the bucket fix-ups out of range (F2), or in scipy's
`ValueError` when some pass called the optimiser with fewer than five members (F3).  The last two are the
model's record of where the code before `b238e9d` / `2124e35` leaked; the correspondence check accepts only a
conforming exception (resp. a returned instance) of the repaired code there and reports the old outcome. -/
theorem loop_exception_table {β : Type} [LinearOrder β] (inf : β) (isFinite : β → Bool) (passes : List (Pass β))
    (e : Exc) (h : fitOutcome inf isFinite passes = .error e) :
    e = .optimizationError ∨ (∃ p ∈ passes, p.planErr = some e) ∨
      (e = .indexError ∧ ∃ p ∈ passes, p.bucketsOk = false) ∨
      (e = .scipyValueError ∧ ∃ p ∈ passes, 0 < p.nBounds ∧ p.popSize < scipyMinPop) :=
  fitOutcome_classes inf isFinite passes e h

end exc

end Opda.Props.C11

#opda_audit Opda.Props.C11

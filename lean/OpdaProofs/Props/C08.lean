import OpdaProofs.Audit
import OpdaProofs.QuadLaw
import OpdaProofs.QuadAvg
import OpdaProofs.QuadTrap
import OpdaProofs.QuadTail
import OpdaProofs.QuadNoisyQtc
import OpdaProofs.NoisyAccuracy
import OpdaProofs.MaxOfN
import OpdaProofs.QuadNoisyDual
/-!
# C08 — parametric tuning curves are quantile and mean of the best of `n` draws

The property theorems, each at most a few steps from lemmas of the imported modules.

* noiseless class: the polymorphic model `Opda.Quad.{quantileTuningCurve, averageTuningCurve}` at `ℝ`
  (`logGamma = log ∘ Γ`); the driver evaluates the same constants at `Float` (`logGammaF`).
* noisy class: `Opda.Noisy.{quantileTuningCurve, avgRunCapped}` (`OpdaModel/QuadNoisy.lean`) on top of the
  noisy cdf/ppf model and of the integration loop `Opda.TrapLoop` (`OpdaModel/QuadTrap.lean`) — the terms
  the driver runs at `Float`, and (for the negative result) the kernel runs at `Rat`.

**The noisy quantile clause `|F(quantile_tuning_curve(n,q)) − level| ≤ 2e-5`** is a theorem in exact real arithmetic
(`realFns`: real `Φ`, `φ`, `rpow`), for every real `n > 0` (so every `n ≥ 1`), every `q ∈ (0,1)` (the level is then strictly
inside `(0,1)`: `noisy_level_inside`), both shapes, both directions and `minimize = None`:
`noisy_qtc_hits_level_even` — even `c = 2k ≤ 100`, every `a ≤ b`, `o ≥ 0` other than the point mass (all three regimes);
`noisy_qtc_hits_level_odd_partial` — series regime, shipped table, `c = 9` at every scale, `c = 5` with `o/(b−a) < 1/5`,
`c = 3` with `o/(b−a) < 1/50` (the settings of `C07.cdf_ppf_odd_tolerance_partial`).  Measured only: `c = 1`, `c = 7`,
`c = 5` at scales `≥ 0.2`, `c = 3` at scales `≥ 0.02` in the series regime, `c > 100`, and IEEE rounding (the theorems are at `ℝ`).
`noisy_qtc_accuracy` is the conditional statement over any ordered field (given monotonicity and a Lipschitz constant of the cdf).

What is **not** a theorem, and why: the accuracy clause of the integrated average curve
(`100·max(atol, 1e-6·scale)`).  `stop_rule_not_a_bound` exhibits a continuous CDF for which the loop stops at
its first permitted round with an error 30 000 times the tolerance, so no such theorem exists for the
documented algorithm; `navg_returns_trapezoid_partial` states all that the stopping rule does give.
The two defects found here were repaired in /repo (`fix:` 867c66b — F4, the `1[y>0]` jump inside the range of
integration — and fd4085d — F5, the point mass never returned); the model is the repaired loop.
`navg_point_mass_returns` is the theorem that F5 is gone, `navg_fix_conservative` relates the repaired integrand
to the legacy one, and `Props/C09.lean` has the equivariance the legacy integrand lacked.
-/
namespace Opda.Props.C08
open Opda

section quantile
open Opda.Quad

/-- the level of the best of `n` draws: `q^{1/n}` when maximising, `1 − (1−q)^{1/n}` when minimising -/
theorem level_formula (m : Bool) (q nn : ℝ) :
    level m q nn = if m then 1 - (1 - q) ^ (1 / nn) else q ^ (1 / nn) := level_eq m q nn

/-- noiseless: `F(quantile_tuning_curve(n, q, minimize)) = level`, every real `n > 0`, `q ∈ [0,1]` -/
theorem quad_qtc_hits_level (d : Params ℝ) (hab : d.a < d.b) (hc : 0 < d.c) (nn q : ℝ) (mn : Option Bool)
    (hq0 : 0 ≤ q) (hq1 : q ≤ 1) (hn : 0 < nn) :
    cdf d (quantileTuningCurve d nn q mn) = level (mn.getD d.convex) q nn :=
  cdf_quantileTuningCurve d hab hc nn q mn (level_mem _ q nn hq0 hq1 hn).1 (level_mem _ q nn hq0 hq1 hn).2

/-- `minimize = None` means `minimize = self.convex`, for both noiseless curves -/
theorem quad_minimize_default (d : Params ℝ) (nn q : ℝ) :
    quantileTuningCurve d nn q none = quantileTuningCurve d nn q (some d.convex)
      ∧ averageTuningCurve d nn none = averageTuningCurve d nn (some d.convex) := ⟨rfl, rfl⟩

/-- noisy: the quantile curve is `ppf` at the same level, and `None ↦ convex` -/
theorem noisy_qtc_is_ppf_at_level {α : Type} [Field α] [LinearOrder α] [IsStrictOrderedRing α]
    (F : Noisy.Fns α) (d : Noisy.Params α) (nn q : α) (mn : Option Bool) :
    Noisy.quantileTuningCurve F d nn q mn = Noisy.ppf F d (Noisy.level F (mn.getD d.convex) q nn)
      ∧ Noisy.quantileTuningCurve F d nn q none = Noisy.quantileTuningCurve F d nn q (some d.convex) := ⟨rfl, rfl⟩

/-- noisy, series regime (conditional, as C07): for a monotone `L`-Lipschitz cdf the curve hits the level to
`L·(b−a+12o)/2^30` plus the tail mass outside the bracket.  The property's 2e-5 is this with the real cdf's
`L`; that constant is numerical (C06) and is checked by the correspondence, not proved. -/
theorem noisy_qtc_accuracy {α : Type} [Field α] [LinearOrder α] [IsStrictOrderedRing α] {F : Noisy.Fns α}
    (hF : Noisy.Lawful F) (d : Noisy.Params α) (hab : d.a ≤ d.b) (ho : 0 ≤ d.o) (nn q : α) (mn : Option Bool)
    (hp : Noisy.pointMass F d = false) (h : Noisy.regime F d = .nothing) (L : α)
    (hl0 : 0 < Noisy.level F (mn.getD d.convex) q nn) (hl1 : Noisy.level F (mn.getD d.convex) q nn < 1)
    (hmono : ∀ x y, d.a - 6 * d.o ≤ x → x ≤ y → y ≤ d.b + 6 * d.o → Noisy.cdf F d x ≤ Noisy.cdf F d y)
    (hlip : ∀ x y, d.a - 6 * d.o ≤ x → x ≤ y → y ≤ d.b + 6 * d.o →
      Noisy.cdf F d y - Noisy.cdf F d x ≤ L * (y - x)) :
    |Noisy.cdf F d (Noisy.quantileTuningCurve F d nn q mn) - Noisy.level F (mn.getD d.convex) q nn|
      ≤ L * ((d.b - d.a + 12 * d.o) / 2 ^ 30)
        + max 0 (max (Noisy.cdf F d (d.a - 6 * d.o) - Noisy.level F (mn.getD d.convex) q nn)
            (Noisy.level F (mn.getD d.convex) q nn - Noisy.cdf F d (d.b + 6 * d.o))) := by
  unfold Noisy.quantileTuningCurve
  set lv := Noisy.level F (mn.getD d.convex) q nn
  have hc : Noisy.clip lv 0 1 = lv := Noisy.clip_of_mem lv 0 1 hl0.le hl1.le
  rw [Noisy.ppf_nothing hF d lv hp h, hc, if_neg hl0.ne', if_neg hl1.ne]
  exact Noisy.ppfBisect_accuracy hF d hab ho L lv hmono hlip

/-- the noisy level at the real instance is the documented one (`rpow`), and lies strictly inside `(0,1)` for
`q ∈ (0,1)` and every real `n > 0` -/
theorem noisy_level_inside (T : List (ℕ × List (Noisy.Entry ℝ))) (ninf pinf : ℝ) (m : Bool) (q nn : ℝ)
    (hq0 : 0 < q) (hq1 : q < 1) (hn : 0 < nn) :
    Noisy.level (Noisy.realFns T ninf pinf) m q nn = (if m then 1 - (1 - q) ^ (1 / nn) else q ^ (1 / nn))
      ∧ 0 < Noisy.level (Noisy.realFns T ninf pinf) m q nn ∧ Noisy.level (Noisy.realFns T ninf pinf) m q nn < 1 :=
  ⟨Noisy.level_real T ninf pinf m q nn, Noisy.level_real_mem T ninf pinf m q nn hq0 hq1 hn⟩

/-- **noisy, even `c = 2k`, `1 ≤ k ≤ 50`, unconditional, exact real arithmetic**: every `a ≤ b`, `o ≥ 0` other than the point
mass (noiseless, series and normal regime), both shapes, `minimize ∈ {None, False, True}`, every real `n > 0`, every
`q ∈ (0,1)`: `|cdf(quantile_tuning_curve(n, q, minimize)) − level| ≤ 2e-5`, `level = q^{1/n}` resp. `1 − (1−q)^{1/n}`
(the bound obtained is C07's `1e-5`).  At `ℝ`; IEEE rounding is measured. -/
theorem noisy_qtc_hits_level_even (T : List (ℕ × List (Noisy.Entry ℝ))) (ninf pinf : ℝ) (d : Noisy.Params ℝ) (k : ℕ)
    (hk : 1 ≤ k) (hk50 : k ≤ 50) (hc : d.c = 2 * k) (hab : d.a ≤ d.b) (ho : 0 ≤ d.o)
    (hp : Noisy.pointMass (Noisy.realFns T ninf pinf) d = false) (nn q : ℝ) (mn : Option Bool)
    (hn : 0 < nn) (hq0 : 0 < q) (hq1 : q < 1) :
    |Noisy.cdf (Noisy.realFns T ninf pinf) d (Noisy.quantileTuningCurve (Noisy.realFns T ninf pinf) d nn q mn)
        - Noisy.level (Noisy.realFns T ninf pinf) (mn.getD d.convex) q nn| ≤ 2e-5 := by
  obtain ⟨h0, h1⟩ := Noisy.level_real_mem T ninf pinf (mn.getD d.convex) q nn hq0 hq1 hn
  exact (Noisy.cdf_ppf_even_all T ninf pinf d k hk hk50 hc hab ho hp _ h0 h1).trans (by norm_num)

/-- **noisy, odd `c`, where C07's proved bound reaches the tolerance** (series regime, the shipped table, exact real
arithmetic): `c = 9` at every scale of the regime, `c = 5` with `o/(b−a) < 1/5`, `c = 3` with `o/(b−a) < 1/50`; both shapes,
`minimize ∈ {None, False, True}`, every real `n > 0`, every `q ∈ (0,1)`:
`|cdf(quantile_tuning_curve(n, q, minimize)) − level| ≤ 2e-5`.
`_partial`: missing are `c = 1`, `c = 7`, `c = 5` at scales `≥ 0.2`, `c = 3` at scales `≥ 0.02` (C07's bound
`2·1.02·max_error + …` exceeds even `2e-5` for `c = 1`, `c = 3`, `c = 5` there; for `c = 7` it is `1.6e-5` but is proved only
as an explicit bound, `C07.cdf_ppf_odd_shipped_table_partial`), `c > 100`, and IEEE rounding — measured by `corr_C08`. -/
theorem noisy_qtc_hits_level_odd_partial (ninf pinf : ℝ) (d : Noisy.Params ℝ) (hab : d.a ≤ d.b)
    (hp : Noisy.pointMass (Noisy.realFns Noisy.tableR ninf pinf) d = false)
    (h : Noisy.regime (Noisy.realFns Noisy.tableR ninf pinf) d = .nothing)
    (hcs : d.c = 9 ∨ (d.c = 5 ∧ d.o / (d.b - d.a) < 1 / 5) ∨ (d.c = 3 ∧ d.o / (d.b - d.a) < 1 / 50))
    (nn q : ℝ) (mn : Option Bool) (hn : 0 < nn) (hq0 : 0 < q) (hq1 : q < 1) :
    |Noisy.cdf (Noisy.realFns Noisy.tableR ninf pinf) d
          (Noisy.quantileTuningCurve (Noisy.realFns Noisy.tableR ninf pinf) d nn q mn)
        - Noisy.level (Noisy.realFns Noisy.tableR ninf pinf) (mn.getD d.convex) q nn| ≤ 2e-5 := by
  obtain ⟨h0, h1⟩ := Noisy.level_real_mem Noisy.tableR ninf pinf (mn.getD d.convex) q nn hq0 hq1 hn
  exact (Noisy.cdf_ppf_odd_tolerance ninf pinf d hp h hcs _ h0 h1).trans (by norm_num)

/-- non-vacuity: `a=0, b=1, o=1/10`, either shape, `n = 5/2`, `q = 1/2`, minimising: `c = 4` and `c = 9` satisfy the
hypotheses and the curves hit their levels to 2e-5 -/
example (cv : Bool) :
    |Noisy.cdf (Noisy.realFns [] 0 0) { a := 0, b := 1, c := 4, o := 1/10, convex := cv }
          (Noisy.quantileTuningCurve (Noisy.realFns [] 0 0) { a := 0, b := 1, c := 4, o := 1/10, convex := cv }
            (5/2) (1/2) (some true))
        - Noisy.level (Noisy.realFns [] 0 0) true (1/2) (5/2)| ≤ 2e-5
    ∧ |Noisy.cdf (Noisy.realFns Noisy.tableR 0 0) { a := 0, b := 1, c := 9, o := 1/10, convex := cv }
          (Noisy.quantileTuningCurve (Noisy.realFns Noisy.tableR 0 0)
            { a := 0, b := 1, c := 9, o := 1/10, convex := cv } (5/2) (1/2) (some true))
        - Noisy.level (Noisy.realFns Noisy.tableR 0 0) true (1/2) (5/2)| ≤ 2e-5 := by
  have hp : ∀ (T : List (ℕ × List (Noisy.Entry ℝ))) (c : ℕ),
      Noisy.pointMass (Noisy.realFns T 0 0) { a := 0, b := 1, c := c, o := 1/10, convex := cv } = false := by
    intro T c
    exact Noisy.pointMass_eq_false (Noisy.realFns_lawful T 0 0) _ (.inl (by norm_num))
  have hr : Noisy.regime (Noisy.realFns Noisy.tableR 0 0)
      { a := 0, b := 1, c := 9, o := 1/10, convex := cv } = .nothing := by
    rw [Noisy.regime_nothing_iff (Noisy.realFns_lawful _ 0 0)]; norm_num
  exact ⟨noisy_qtc_hits_level_even [] 0 0 _ 2 (by norm_num) (by norm_num) rfl (by norm_num) (by norm_num) (hp _ 4)
      (5/2) (1/2) (some true) (by norm_num) (by norm_num) (by norm_num),
    noisy_qtc_hits_level_odd_partial 0 0 _ (by norm_num) (hp _ 9) hr (Or.inl rfl)
      (5/2) (1/2) (some true) (by norm_num) (by norm_num) (by norm_num)⟩

/-- for integer `n` the level is what it should be: `P[all n draws ≤ t] = F(t)^n` (discrete form, C04-T2') -/
theorem best_of_n_cdf {N : ℕ} (y w : Fin N → ℝ) (t : ℝ) (n : ℕ) :
    (∑ j, if y j ≤ t then w j else 0) ^ n
      = ∑ g : Fin n → Fin N, if (∀ i, y (g i) ≤ t) then ∏ i, w (g i) else 0 :=
  MaxOfN.cdf_pow_eq_prob_all_le y w t n

end quantile

section average
open Opda.Quad

/-- `E[max of n draws of U^{2/c}] = ∫₀¹ u^{2/c}·n u^{n−1} du = n/(n + 2/c)`, every real `n > 0` -/
theorem expected_max_closed_form (c : ℕ) (hc : 0 < c) (n : ℝ) (hn : 0 < n) :
    EmaxW c n = n / (n + 2 / c) := EmaxW_eq c hc n hn

/-- `E[min of n draws of U^{2/c}] = ∫₀¹ u^{2/c}·n (1−u)^{n−1} du = Γ(n+1)Γ(1+2/c)/Γ(n+1+2/c)` (Beta integral) -/
theorem expected_min_closed_form (c : ℕ) (hc : 0 < c) (n : ℝ) (hn : 0 < n) :
    EminW c n = Real.Gamma (n + 1) * Real.Gamma (1 + 2 / c) / Real.Gamma (n + 1 + 2 / c) := EminW_eq c hc n hn

/-- the four branches of `average_tuning_curve` are these two expectations composed with the affine map
(`exp(loggamma + loggamma − loggamma)` is the Gamma ratio) -/
theorem quad_avg_is_expectation (d : Params ℝ) (hc : 0 < d.c) (nn : ℝ) (hn : 0 < nn) (mn : Option Bool) :
    averageTuningCurve d nn mn =
      if d.convex then
        (if mn.getD d.convex then d.a + (d.b - d.a) * EminW d.c nn else d.a + (d.b - d.a) * EmaxW d.c nn)
      else
        (if mn.getD d.convex then d.b - (d.b - d.a) * EmaxW d.c nn else d.b - (d.b - d.a) * EminW d.c nn) :=
  avg_is_expectation d hc nn hn mn

/-- the curve stays inside `[a, b]` (every `a ≤ b`; for `a = b` it is the point mass `a`) -/
theorem quad_avg_inside (d : Params ℝ) (hab : d.a ≤ d.b) (hc : 0 < d.c) (nn : ℝ) (hn : 0 < nn) (mn : Option Bool) :
    d.a ≤ averageTuningCurve d nn mn ∧ averageTuningCurve d nn mn ≤ d.b := by
  obtain ⟨x0, x1⟩ := EmaxW_mem d.c hc nn hn
  obtain ⟨m0, m1⟩ := EminW_mem d.c hc nn hn
  rw [avg_is_expectation d hc nn hn mn]
  split_ifs
  · exact Small.lerp_mem hab m0 m1
  · exact Small.lerp_mem hab x0 x1
  · exact lerp_mem_mirror hab x0 x1
  · exact lerp_mem_mirror hab m0 m1

/-- monotone in `n` in the direction of optimisation -/
theorem quad_avg_monotone (d : Params ℝ) (hab : d.a ≤ d.b) (hc : 0 < d.c) (n n' : ℝ) (hn : 0 < n) (hnn : n ≤ n')
    (m : Bool) :
    if m then averageTuningCurve d n' (some m) ≤ averageTuningCurve d n (some m)
    else averageTuningCurve d n (some m) ≤ averageTuningCurve d n' (some m) := by
  have hx := mul_le_mul_of_nonneg_left (EmaxW_mono d.c hc n n' hn hnn) (sub_nonneg.mpr hab)
  have hm := mul_le_mul_of_nonneg_left (EminW_anti d.c hc n n' hn hnn) (sub_nonneg.mpr hab)
  rw [avg_is_expectation d hc n hn, avg_is_expectation d hc n' (hn.trans_le hnn)]
  simp only [Option.getD_some]
  cases m <;> cases d.convex <;> simp only [Bool.false_eq_true, if_false, if_true]
  · exact sub_le_sub_left hm _
  · exact add_le_add_right hx _
  · exact sub_le_sub_left hx _
  · exact add_le_add_right hm _

/-- the quantile curve stays inside `[a, b]` too -/
theorem quad_qtc_inside (d : Params ℝ) (hab : d.a ≤ d.b) (hc : 0 < d.c) (nn q : ℝ) (mn : Option Bool) :
    d.a ≤ quantileTuningCurve d nn q mn ∧ quantileTuningCurve d nn q mn ≤ d.b := ppf_mem d hab _

end average

section loop
open Opda.TrapLoop Opda.Noisy

/-- **T3**: after `i` refinements the loop's state is the step `(hi−lo)/2^i` and the composite trapezoid sum
on `2^i` panels, for *any* integrand -/
theorem loop_state_is_trapezoid (g : ℝ → ℝ) (lo hi : ℝ) (i : ℕ) :
    iter TrapLoop.cast g lo hi i = (Trap.h lo hi i, Trap.trap g lo hi i) := by
  rw [iter_eq, Trap.loop_eq_trap]

/-- **T4 (tail bookkeeping)**: for `G = 0` up to `lo`, `G = 1` beyond `hi`, on any window `[−M, M]` containing
`lo`, `hi` and `0`: `E = ∫ (1[y>0] − G) = lo + ∫_lo^hi (1 − G)` — the value the code returns is `lo +` the
trapezoid sum of `1 − G` -/
theorem tail_terms (G : ℝ → ℝ) (lo hi M : ℝ) (hlh : lo ≤ hi) (hM1 : -M ≤ lo) (hM2 : hi ≤ M) (hM : 0 ≤ M)
    (hG0 : ∀ y, y ≤ lo → G y = 0) (hG1 : ∀ y, hi < y → G y = 1)
    (hint : IntervalIntegrable G MeasureTheory.volume lo hi) :
    ∫ y in (-M)..M, (ind TrapLoop.cast y - G y) = lo + ∫ y in lo..hi, (1 - G y) := by
  -- the three-term form, in which `tail = max 0 lo + min 0 hi`; then `∫_lo^hi 1[y>0] = max 0 hi − max 0 lo`
  -- and `min 0 hi + max 0 hi = hi` leave `hi − ∫ G = lo + ∫ (1 − G)`
  have I := integral_ind hlh
  rw [tail_bookkeeping G lo hi M hM1 hM2 hM hG0 hG1 (I.1.sub hint), intervalIntegral.integral_sub I.1 hint,
    I.2, intervalIntegral.integral_sub intervalIntegrable_const hint, intervalIntegral.integral_const, tail_eq,
    smul_eq_mul, mul_one]
  linarith [min_add_max 0 hi]

/-- **partial** — everything the stopping rule guarantees about what `average_tuning_curve` returns: trapezoid
sums at a round `i > 3` at which every curve moved by at most `3·atol`.  Missing (and false, see
`stop_rule_not_a_bound`): `|T_i − ∫| ≤ 100·max(atol, 1e-6·scale)`. -/
theorem navg_returns_trapezoid_partial {F : Fns ℝ} (hF : Lawful F) (d : Params ℝ) (ns : List ℝ) (mn : Option Bool)
    (atol : Option ℝ) (rounds : ℕ) (r : ℕ × List ℝ × List ℝ) (h : avgRunCapped F d ns mn atol rounds = some r) :
    3 < r.1 ∧
      r.2.1 = ns.map (fun nn => Trap.trap (gRep F.n F.pow (cdf F d) (mn.getD d.convex) nn) (intLo F d) (intHi F d) r.1) ∧
      ∀ nn ∈ ns, |Trap.trap (gRep F.n F.pow (cdf F d) (mn.getD d.convex) nn) (intLo F d) (intHi F d) r.1
          - Trap.trap (gRep F.n F.pow (cdf F d) (mn.getD d.convex) nn) (intLo F d) (intHi F d) (r.1 - 1)|
        ≤ 3 * atolOf F d atol := by
  unfold avgRunCapped at h
  have hn := Noisy.n_eq_cast hF
  rw [hn] at h
  obtain ⟨h3, hT, herr⟩ := runCapped_spec _ _ _ _ rounds r h
  refine ⟨h3, ?_, ?_⟩
  · rw [hT, List.map_map, hn]; rfl
  · intro nn hnn
    have := herr (gRep TrapLoop.cast F.pow (cdf F d) (mn.getD d.convex) nn) (List.mem_map.mpr ⟨nn, hnn, rfl⟩)
    rw [hn]; exact this

/-- the repair of F4 changed nothing where the legacy integrand was sound: when `0` is outside
`(a − 6o, b + 6o]` the legacy value `max(0,lo) + min(0,hi) + T_i[1[y>0] − Fⁿ]` equals the code's
`lo + T_i[1 − Fⁿ]` at every refinement level -/
theorem navg_fix_conservative {F : Fns ℝ} (hF : Lawful F) (d : Params ℝ) (hab : d.a ≤ d.b)
    (ho : 0 ≤ d.o) (m : Bool) (nn : ℝ) (i : ℕ) (h : 0 < intLo F d ∨ intHi F d ≤ 0) :
    valueCur F.n F.pow (cdf F d) m nn (intLo F d) (intHi F d) i
      = valueRep F.n F.pow (cdf F d) m nn (intLo F d) (intHi F d) i :=
  avgCur_eq_avgRep_partial hF d hab ho m nn i h

/-- **T5 (negative result)**: on the loop model itself (run by the kernel at `Rat`): a continuous piecewise-linear
CDF on `[1,2]`, `n = 1`, default `atol = 1e-6·(hi−lo)`, for which the loop stops at round 4 although the value is
off the exact integral by more than `100·atol` (by `63/2048`) -/
theorem stop_rule_not_a_bound :
    ∃ (i : Nat) (T : Rat),
      (runCapped Witness.natQ [Witness.g] 1 2 Witness.atol 30).map (fun r => (r.1, r.2.1)) = some (i, [T])
        ∧ 100 * Witness.atol < |T - Witness.exactIntegral| := Witness.stop_rule_not_a_bound

/-- the witness is a distribution function: non-decreasing with values in `[0,1]`, `0` at `1`, `1` at `2` -/
theorem stop_rule_witness_is_cdf :
    (∀ x y : Rat, x ≤ y → Witness.F x ≤ Witness.F y) ∧ (∀ y : Rat, 0 ≤ Witness.F y ∧ Witness.F y ≤ 1)
      ∧ Witness.F 1 = 0 ∧ Witness.F 2 = 1 :=
  ⟨Witness.F_mono, Witness.F_range, by decide +kernel, by decide +kernel⟩

/-- **the point mass returns** (F5 repaired): for `a = b`, `o = 0` and the default tolerance the loop stops at
round 4 and `average_tuning_curve(ns)` is constantly `a` (for exponents with `0ⁿ = 0`, `1ⁿ = 1`) -/
theorem navg_point_mass_returns {F : Fns ℝ} (hF : Lawful F) (d : Params ℝ) (hab : d.a = d.b) (ho : d.o = 0)
    (ns : List ℝ) (mn : Option Bool) (hp0 : ∀ nn ∈ ns, F.pow 0 nn = 0) (hp1 : ∀ nn ∈ ns, F.pow 1 nn = 1) :
    averageTuningCurve F d ns mn none = some (ns.map fun _ => d.a) :=
  averageTuningCurve_pointMass hF d hab ho ns mn hp0 hp1

/-- non-vacuity of the exponent hypotheses: the real instance (`pow = rpow`) satisfies them for every `n ≠ 0` -/
example (T : List (ℕ × List (Noisy.Entry ℝ))) (nn : ℝ) (hn : nn ≠ 0) :
    (Noisy.realFns T 0 0).pow 0 nn = 0 ∧ (Noisy.realFns T 0 0).pow 1 nn = 1 :=
  ⟨Real.zero_rpow hn, Real.one_rpow nn⟩

/-- a negative explicit tolerance can never be met: `IntegrationError` after the round budget -/
theorem navg_negative_atol_fails {F : Fns ℝ} (hF : Lawful F) (d : Params ℝ) (ns : List ℝ) (mn : Option Bool)
    (atol : ℝ) (hat : atol < 0) (rounds : ℕ) : avgRunCapped F d ns mn (some atol) rounds = none := by
  unfold avgRunCapped TrapLoop.runCapped
  have hn := Noisy.n_eq_cast hF
  have : atolOf F d (some atol) = atol := rfl
  rw [this, hn]
  exact runFrom_none_of_atol_neg _ _ atol hat rounds _ _ _

end loop

/-- non-vacuity: `Q(0,1,3)` concave, `n = 2`: the maximising average curve is `1 − Γ(3)Γ(5/3)/Γ(11/3)`-shaped and
lies in `[0,1]` -/
example : (0:ℝ) ≤ Quad.averageTuningCurve ({ a := 0, b := 1, c := 3, convex := false } : Quad.Params ℝ) 2 none :=
  (quad_avg_inside ({ a := 0, b := 1, c := 3, convex := false } : Quad.Params ℝ) (by norm_num) (by norm_num) 2
    (by norm_num) none).1

end Opda.Props.C08

#opda_audit Opda.Props.C08

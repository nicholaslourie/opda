import OpdaProofs.Audit
import OpdaProofs.QuadLaw
import OpdaProofs.QuadPdf
import OpdaProofs.QuadBeta
/-!
# C05 — `QuadraticDistribution` is the stated law

Property theorems in the order of the property's clauses: T1 distribution function, T2 quantile function, T3 the law
and the Beta family, T4 density, T5 moments, T6 the point mass `a = b` (read off the definitions: the equations
`cdf_eq`, `pdf_eq` of `QuadLaw.lean` are for `a < b`).  The lemmas live in `OpdaProofs/Quad*.lean`; what only this file
needs is proved here.  The theorems are about the polymorphic
model `Opda.Quad.{cdf, pdf, ppf, mean, variance}` of `OpdaModel/Quadratic.lean` read at `ℝ` (global
instance `OpdaProofs/RealInst.lean`: `pow = Real.rpow`); the correspondence check evaluates **the same
constants** at `Float` (`OpdaModel/FloatInst.lean`, `Drv/Quad.lean`), so what is proved and what is run
differ in the instance only.  Everything holds for every real `a < b` (resp. `a = b` for the point
mass), every positive integer `c` (no use is made of `c ≤ 10`) and both shapes.
-/
namespace Opda.Props.C05
open Opda Opda.Quad MeasureTheory ProbabilityTheory Set

theorem cdf_monotone (d : Params ℝ) (hab : d.a < d.b) (hc : 0 < d.c) : Monotone (cdf d) :=
  cdf_mono d hab hc

theorem cdf_zero_below (d : Params ℝ) (hab : d.a < d.b) (hc : 0 < d.c) (y : ℝ) (hy : y ≤ d.a) :
    cdf d y = 0 := cdf_below d hab hc y hy

theorem cdf_one_above (d : Params ℝ) (hab : d.a < d.b) (hc : 0 < d.c) (y : ℝ) (hy : d.b ≤ y) :
    cdf d y = 1 := cdf_above d hab hc y hy

theorem cdf_range (d : Params ℝ) (hab : d.a < d.b) (hc : 0 < d.c) (y : ℝ) :
    0 ≤ cdf d y ∧ cdf d y ≤ 1 := cdf_mem d hab hc y

theorem cdf_ppf_eq (d : Params ℝ) (hab : d.a < d.b) (hc : 0 < d.c) (q : ℝ) (hq0 : 0 ≤ q) (hq1 : q ≤ 1) :
    cdf d (ppf d q) = q := cdf_ppf d hab hc q hq0 hq1

/-- in exact arithmetic the point *is* `y`; the property only asks for a point with the same cdf value -/
theorem ppf_cdf_eq (d : Params ℝ) (hab : d.a < d.b) (hc : 0 < d.c) (y : ℝ) (hya : d.a ≤ y) (hyb : y ≤ d.b) :
    ppf d (cdf d y) = y := ppf_cdf d hab hc y hya hyb

/-- for every `a ≤ b`, including the point mass -/
theorem ppf_monotone (d : Params ℝ) (hab : d.a ≤ d.b) (hc : 0 < d.c) : Monotone (ppf d) :=
  ppf_mono d hab

theorem ppf_range (d : Params ℝ) (hab : d.a ≤ d.b) (hc : 0 < d.c) (q : ℝ) :
    d.a ≤ ppf d q ∧ ppf d q ≤ d.b := ppf_mem d hab q

theorem ppf_endpoints (d : Params ℝ) (hc : 0 < d.c) : ppf d 0 = d.a ∧ ppf d 1 = d.b := by
  have hne : (2:ℝ) / d.c ≠ 0 := by positivity
  rw [ppf_eq, ppf_eq, clip_of_mem 0 0 1 le_rfl zero_le_one, clip_of_mem 1 0 1 zero_le_one le_rfl]
  split_ifs <;> simp [Real.zero_rpow hne]

/-- `ppf` maps `[0,1]` **onto** `[a,b]`. -/
theorem ppf_onto (d : Params ℝ) (hab : d.a < d.b) (hc : 0 < d.c) :
    SurjOn (ppf d) (Icc 0 1) (Icc d.a d.b) :=
  fun y hy => ⟨cdf d y, cdf_mem d hab hc y, ppf_cdf d hab hc y hy.1 hy.2⟩

/-- convex: `P[a + (b−a)·U^{2/c} ≤ y] = cdf y` for `U` uniform on `(0,1]`. -/
theorem law_of_convex (d : Params ℝ) (hab : d.a < d.b) (hc : 0 < d.c) (hcv : d.convex = true) (y : ℝ) :
    volume {u : ℝ | u ∈ Ioc (0:ℝ) 1 ∧ d.a + (d.b - d.a) * u ^ ((2:ℝ) / d.c) ≤ y}
      = ENNReal.ofReal (cdf d y) := by
  rw [← ppf_law d hab hc y]
  congr 1
  ext u
  exact and_congr_right fun hu => by rw [ppf_eq, if_pos hcv, clip_of_mem u 0 1 hu.1.le hu.2]

/-- concave: `P[b − (b−a)·U^{2/c} ≤ y] = cdf y` for `U` uniform on `[0,1)`. -/
theorem law_of_concave (d : Params ℝ) (hab : d.a < d.b) (hc : 0 < d.c) (hcv : d.convex = false) (y : ℝ) :
    volume {u : ℝ | u ∈ Ico (0:ℝ) 1 ∧ d.b - (d.b - d.a) * u ^ ((2:ℝ) / d.c) ≤ y}
      = ENNReal.ofReal (cdf d y) := by
  -- `b − (b−a)·u^{2/c} = ppf (1 − u)`, so by the Galois law the event is `1 − cdf y ≤ u < 1`
  have hset : {u : ℝ | u ∈ Ico (0:ℝ) 1 ∧ d.b - (d.b - d.a) * u ^ ((2:ℝ) / d.c) ≤ y}
      = Ico (1 - cdf d y) 1 := by
    ext u
    have key : 0 ≤ u → u < 1 → (d.b - (d.b - d.a) * u ^ ((2:ℝ) / d.c) ≤ y ↔ 1 - cdf d y ≤ u) := fun h0 h1 => by
      rw [sub_le_comm (a := (1:ℝ)), ← ppf_le_iff d hab hc (1 - u) (sub_pos.mpr h1) (sub_le_self 1 h0) y, ppf_eq,
        if_neg (by simp [hcv]), clip_of_mem _ 0 1 (sub_pos.mpr h1).le (sub_le_self 1 h0), sub_sub_cancel]
    exact ⟨fun ⟨⟨h0, h1⟩, h⟩ => ⟨(key h0 h1).mp h, h1⟩, fun ⟨h, h1⟩ =>
      have h0 := (sub_nonneg.mpr (cdf_mem d hab hc y).2).trans h
      ⟨⟨h0, h1⟩, (key h0 h1).mpr h⟩⟩
  rw [hset, Real.volume_Ico, sub_sub_cancel]

/-- convex: `cdf y` is Mathlib's `Beta(c/2, 1)` distribution function at `(y − a)/(b − a)`, every real `y`. -/
theorem cdf_is_beta_convex (d : Params ℝ) (hab : d.a < d.b) (hc : 0 < d.c) (hcv : d.convex = true) (y : ℝ) :
    betaMeasure ((d.c:ℝ) / 2) 1 (Iic ((y - d.a) / (d.b - d.a))) = ENNReal.ofReal (cdf d y) := by
  rw [cdf_eq_std d hab, if_pos hcv]
  exact betaMeasure_right_one_Iic _ (by positivity) _

/-- concave: `cdf y` is Mathlib's `Beta(1, c/2)` distribution function at `(y − a)/(b − a)`, every real `y`. -/
theorem cdf_is_beta_concave (d : Params ℝ) (hab : d.a < d.b) (hc : 0 < d.c) (hcv : d.convex = false) (y : ℝ) :
    betaMeasure 1 ((d.c:ℝ) / 2) (Iic ((y - d.a) / (d.b - d.a))) = ENNReal.ofReal (cdf d y) := by
  rw [cdf_eq_std d hab, if_neg (by simp [hcv])]
  exact betaMeasure_left_one_Iic _ (by positivity) _

/-- inside `(a,b)` the cdf is differentiable and its derivative is `pdf`. -/
theorem pdf_is_derivative (d : Params ℝ) (hab : d.a < d.b) (y : ℝ) (h1 : d.a < y) (h2 : y < d.b) :
    HasDerivAt (cdf d) (pdf d y) y := by
  wlog hcv : d.convex generalizing d y
  · have := ((this (reflect d) (neg_lt_neg hab) (-y) (neg_lt_neg h2) (neg_lt_neg h1) (reflect_convex hcv)).comp y
      (hasDerivAt_neg y)).const_sub 1
    rw [← pdf_reflect d hab] at this
    rw [funext (cdf_reflect d hab)]
    exact this.congr_deriv (by ring)
  have hw := sub_pos.mpr hab
  have hf : HasDerivAt (fun z : ℝ => (z - d.a) / (d.b - d.a)) (1 / (d.b - d.a)) y :=
    ((hasDerivAt_id y).sub_const d.a).div_const _
  have := hf.rpow_const (p := (d.c:ℝ) / 2) (Or.inl (div_pos (sub_pos.mpr h1) hw).ne')
  rw [pdf_eq d hab, if_neg (not_or.mpr ⟨h1.le.not_gt, h2.le.not_gt⟩), if_pos hcv]
  refine (this.congr_deriv (by ring)).congr_of_eventuallyEq ?_
  filter_upwards [Ioo_mem_nhds h1 h2] with z hz
  rw [cdf_of_mem d hab hz.1.le hz.2.le, if_pos hcv]

theorem pdf_nonnegative (d : Params ℝ) (hab : d.a < d.b) (y : ℝ) : 0 ≤ pdf d y := by
  have hw := (sub_pos.mpr hab).le
  rw [pdf_eq d hab]
  split_ifs with h hcv
  · rfl
  · exact div_nonneg (mul_nonneg (by positivity)
      (Real.rpow_nonneg (div_nonneg (sub_nonneg.mpr (not_lt.mp (not_or.mp h).1)) hw) _)) hw
  · exact div_nonneg (mul_nonneg (by positivity)
      (Real.rpow_nonneg (div_nonneg (sub_nonneg.mpr (not_lt.mp (not_or.mp h).2)) hw) _)) hw

theorem pdf_zero_outside (d : Params ℝ) (hab : d.a < d.b) (y : ℝ) (h : y < d.a ∨ d.b < y) :
    pdf d y = 0 := pdf_outside d hab y h

theorem pdf_integrates_to_one (d : Params ℝ) (hab : d.a < d.b) (hc : 0 < d.c) : ∫ y, pdf d y = 1 :=
  integral_univ_pdf d hab hc

/-- the `mean` attribute is `∫ y·pdf(y) dy`. -/
theorem mean_is_first_moment (d : Params ℝ) (hab : d.a < d.b) (hc : 0 < d.c) :
    ∫ y, y * pdf d y = mean d := integral_univ_mul_pdf d hab hc

/-- the `variance` attribute is `∫ (y − mean)²·pdf(y) dy`. -/
theorem variance_is_second_central_moment (d : Params ℝ) (hab : d.a < d.b) (hc : 0 < d.c) :
    ∫ y, (y - mean d) ^ 2 * pdf d y = variance d := integral_univ_sq_mul_pdf d hab hc

/-- cdf of the point mass: the unit step at `a`. -/
theorem pointMass_cdf (d : Params ℝ) (hab : d.a = d.b) (y : ℝ) :
    cdf d y = if y < d.a then 0 else 1 := by
  simp [cdf, (num_eq _ _).mpr hab]

/-- ppf of the point mass: constantly `a`. -/
theorem pointMass_ppf (d : Params ℝ) (hab : d.a = d.b) (q : ℝ) : ppf d q = d.a := by
  rw [ppf_eq, ← hab, sub_self, zero_mul, zero_mul, add_zero, sub_zero, ite_self]

/-- density of the point mass away from the atom (at the atom the code returns `inf`, which the `Float`
reading of the model reproduces as `1/0`; over `ℝ` that value carries no meaning and nothing is claimed). -/
theorem pointMass_pdf (d : Params ℝ) (hab : d.a = d.b) (y : ℝ) (hy : y ≠ d.a) : pdf d y = 0 := by
  simp [Quad.pdf, (num_eq _ _).mpr hab, num_eq_false hy]

/-- moments of the point mass. -/
theorem pointMass_moments (d : Params ℝ) (hab : d.a = d.b) : mean d = d.a ∧ variance d = 0 := by
  constructor
  · rw [mean_eq, hab, sub_self, zero_mul, zero_div, add_zero]
  · rw [variance_eq, hab, sub_self, zero_pow two_ne_zero, zero_mul, zero_mul, zero_div]

/-- non-vacuity: the hypotheses are satisfiable (e.g. `Q(0, 1, 3)` convex), and the theorems then say
something concrete: `cdf(ppf(1/2)) = 1/2`. -/
example : cdf ({ a := 0, b := 1, c := 3, convex := true } : Params ℝ)
    (ppf { a := 0, b := 1, c := 3, convex := true } (1/2)) = 1/2 :=
  cdf_ppf_eq _ (by norm_num) (by norm_num) _ (by norm_num) (by norm_num)

end Opda.Props.C05

#opda_audit Opda.Props.C05

import OpdaProofs.Audit
import OpdaProofs.NoisyLogic
import OpdaProofs.NoisyReal
import OpdaProofs.NoisySmooth
import OpdaProofs.NoisyConv
import OpdaProofs.NoisyTable
import OpdaProofs.NoisyLaw
/-!
# C06 — NoisyQuadratic cdf/pdf equal the quadratic law convolved with normal noise  *(proof, partial)*

The property theorems; where a proof is short it stands here, the lemmas live in `OpdaProofs/NoisyLogic.lean`,
`NoisyReal.lean`, `NoisySmooth.lean`, `NoisyConv.lean`, `NoisyTable.lean`, `NoisyLaw.lean`.  All statements are about `Opda.Noisy.cdf / pdf / partialMoment…`, the single
polymorphic definition that the driver evaluates at `Float` (`Opda.NoisyF.cdf F d y := Opda.Noisy.cdf F d y`)
and that is tied to `NoisyQuadraticDistribution.cdf/pdf` by `harness/corr_C06.py` on every run.  `Float`
is opaque to the kernel, so nothing is (or can be) proved *at* `Float`; the theorems hold

* for **every linearly ordered field and every record `F`** of transcendental functions, table and
  Chebyshev ingredients (`cdf_range_series`, `pdf_nonneg_series`, `cdf_at_inf_partial`, `pdf_at_inf`, the
  degenerate-support theorems), under the explicit side conditions `Lawful F` / `RangeOK F` where needed, and
* at `ℝ` with `Φ`, `φ`, `rpow`, `cos`, `√` (`realFns`; the table is still arbitrary) for the analytic
  content: the recursion the code uses *is* the Gaussian partial-moment recursion, so for even `c`
  Model = Spec formula, and for odd `c` Model = `Σ_pieces ∫ p_i dN`, within `sup|x^k − p|` of the Spec, and
* at `ℝ` **with the shipped table** (`tableR` = `Opda.Gen.tableQ`, regenerated from `_approximations.json` on every
  run, cast to `ℝ`; section `shipped`): for every odd `c` that has a row (`c ∈ {1,3,5,7,9}`), both shapes, every `y`, the
  cdf is within `1.02·max_error` of the Spec, `max_error` that of the entry the scale `o/(b−a)` selects, with no
  hypothesis on the pieces (C19's 53 kernel-checked certificates discharge them); likewise `(b−a)·pdf` for odd `c ≥ 3` within
  `(c/2)·1.02·max_error`; and where the recorded errors are small enough, the property's own figures: the cdf within
  2.5e-5 for `c ∈ {7, 9}` (`cdf_c7_c9_shipped_table_tolerance`), `(b−a)·pdf` within 1e-4 for `c = 9`
  (`pdf_c9_shipped_table_tolerance`).  These theorems import the generated files, so they are re-checked against the current JSON.

**Not theorems** (decided every run by the correspondence + the mpmath oracle; the evidence says so):
the 2.5e-5 / 1e-4 / 0.2 / 5e-5 accuracy figures beyond the two cases just named (the proved bounds for odd `c` are `1.02·max_error`, for most entries weaker than
2.5e-5; at the time of writing up to 8e-4 for the cdf of `c = 1`, not checked), the accuracy of the Chebyshev fallback, of the
downward step for `k = −½` and of the `normal` regime, float rounding, `Φ(±∞) ∈ {0,1}` at `Float`.  Both constants of the
noiseless regime *are* proved: `0.4·c·o/(b−a)` for `c ≥ 2` (`noiseless_bound`) and `0.83·√(o/(b−a))` for `c = 1`
(`noiseless_bound_c1`).

**The Spec is literally `P[Z + E ≤ y]`** (section `law`, lemmas in `OpdaProofs/NoisyLaw.lean`): the theorems above are stated
with the *mixture form* `H(t) = ∫₀¹ Φ((t−x)/s) d(x^{c/2})` (which is also what the oracle integrates); the step from "law of
`Z + E`" to it — independence ⇒ convolution, Fubini/Tonelli (`law_of_independent_sum`), `N(0,o²)(−∞,x] = Φ(x/o)`
(`gaussian_noise_cdf`), the law of `Z` as the image of the uniform law under the quadratic part of a draw, with the class's
`cdf` as distribution function (`quadratic_law_cdf`), and the substitution `x = u^{2/c}` (singular at `0` for `c = 1`) — is
`spec_is_law_of_sum` / `spec_is_law_of_independent_sum`, for every `a < b`, `c ≥ 1`, `o > 0`, both shapes, every real `y`;
`cdf_even_model_eq_law_of_sum`, `cdf_c7_c9_law_of_sum_tolerance`, `cdf_odd_shipped_table_law_of_sum_partial` and
`noiseless_bound(_c1)_law_of_sum` restate the Model-vs-Spec theorems against that probability.  Likewise the density:
the law of `Z + E` has density `h(loc y)/(b−a)`, `h` the mixture density (`law_of_sum_density`), so for even `c` the
model's pdf is a density of the law of the sum (`pdf_even_model_is_density_of_law_of_sum`).  Every part of this step is a theorem;
what is *assumed* is only the reading of the property: `Z = quadratic part of a uniform draw`, `E ~ N(0, o²)`,
independent.
-/
namespace Opda.Props.C06
open Opda.Noisy

section field
variable {α : Type} [Field α] [LinearOrder α] [IsStrictOrderedRing α] {F : Fns α}

/-- **T1** `0 ≤ cdf ≤ 1` in every regime, for every parameter setting `a ≤ b`, `o ≥ 0`, every `c`, both
shapes, every `y`. -/
theorem cdf_range (hF : Lawful F) (hR : RangeOK F) (d : Params α) (hab : d.a ≤ d.b) (ho : 0 ≤ d.o) (y : α) :
    0 ≤ cdf F d y ∧ cdf F d y ≤ 1 := Opda.Noisy.cdf_range hF hR d hab ho y

/-- **T1** `pdf ≥ 0` in every regime. -/
theorem pdf_nonneg (hF : Lawful F) (hR : RangeOK F) (d : Params α) (hab : d.a ≤ d.b) (ho : 0 ≤ d.o) (y : α) :
    0 ≤ pdf F d y := Opda.Noisy.pdf_nonneg hF hR d ho y

/-- **T1, series regime**: the final clips give the range *whatever* `Φ`, `φ`, `pow`, `cos`, the table and
the Chebyshev construction return (this is the regime in which the code's value comes out of long
recursions in floating point). -/
theorem cdf_range_series (hF : Lawful F) (d : Params α) (y : α) (hp : pointMass F d = false)
    (h : regime F d = .nothing) : 0 ≤ cdf F d y ∧ cdf F d y ≤ 1 := Opda.Noisy.cdf_range_series hF d y hp h

theorem pdf_nonneg_series (hF : Lawful F) (d : Params α) (y : α) (hp : pointMass F d = false)
    (h : regime F d = .nothing) : 0 ≤ pdf F d y := Opda.Noisy.pdf_nonneg_series hF d y hp h

/-- **T1, values at ±∞ (partial)**: when `np.isinf(loc)` the partial moment is replaced by `0`, so
`cdf = clip Φ(point)` and `pdf = 0`.  Missing for the full clause `cdf(−∞)=0, cdf(+∞)=1`: that `Φ(∓∞)` is
`0`/`1` — a fact about `Float` `erf`, compared on every run (`y = ±inf` is in every sample). -/
theorem cdf_at_inf_partial (hF : Lawful F) (d : Params α) (y : α) (hp : pointMass F d = false)
    (h : regime F d = .nothing) (hinf : F.isInf (locOf d y) = true) :
    cdf F d y = clip (F.normalCdf (if d.convex then (y - d.b) / d.o else (y - d.a) / d.o)) 0 1 := by
  rw [cdf_nothing d y hp h, hF.n_zero, hF.n_one]
  unfold cdfRaw partialMoment
  simp only [hinf, if_true, hF.n_zero, add_zero, sub_zero]
  split_ifs <;> rfl

theorem pdf_at_inf (hF : Lawful F) (d : Params α) (y : α) (hp : pointMass F d = false)
    (h : regime F d = .nothing) (hinf : F.isInf (locOf d y) = true) : pdf F d y = 0 := by
  rw [pdf_nothing d y hp h, hF.n_zero]
  unfold pdfRaw partialMoment
  simp only [hinf, if_true, hF.n_zero, mul_zero, lt_irrefl, if_false]

/-- **T6** `a = b`, `o > 0` ⇒ the normal formulas with mean `a` and standard deviation `√(o·o)`. -/
theorem degenerate_normal (hF : Lawful F) (d : Params α) (hab : d.a = d.b) (ho : 0 < d.o) (y : α) :
    cdf F d y = F.normalCdf ((y - d.a) / F.sqrt (d.o * d.o))
      ∧ pdf F d y = F.normalPdf ((y - d.a) / F.sqrt (d.o * d.o)) / F.sqrt (d.o * d.o) :=
  ⟨cdf_degenerate_normal hF d hab ho y, pdf_degenerate_normal hF d hab ho y⟩

/-- **T6** `a = b`, `o = 0` ⇒ point mass at `a`. -/
theorem point_mass (hF : Lawful F) (d : Params α) (hab : d.a = d.b) (ho : d.o = 0) (y : α) :
    cdf F d y = (if y < d.a then 0 else 1) ∧ pdf F d y = (if y = d.a then F.posInf else 0) :=
  ⟨cdf_point_mass hF d hab ho y, pdf_point_mass hF d hab ho y⟩

end field

section real
variable (T : List (ℕ × List (Entry ℝ))) (ninf pinf : ℝ)

/-- **T1 at `ℝ`**, no side condition left but `0 ≤ pinf` (the stand-in for `+∞`, returned by the point-mass pdf): with
the real `Φ`, `φ`, `rpow`, `√` the model's cdf lies in `[0,1]` and its pdf is non-negative for every table, `a ≤ b`, `o ≥ 0`, `c`, shape and `y`. -/
theorem cdf_range_real (hp : 0 ≤ pinf) (d : Params ℝ) (hab : d.a ≤ d.b) (ho : 0 ≤ d.o) (y : ℝ) :
    (0 ≤ cdf (realFns T ninf pinf) d y ∧ cdf (realFns T ninf pinf) d y ≤ 1) ∧ 0 ≤ pdf (realFns T ninf pinf) d y :=
  ⟨Opda.Noisy.cdf_range (realFns_lawful T ninf pinf) (realFns_rangeOK T ninf pinf hp) d hab ho y,
   Opda.Noisy.pdf_nonneg (realFns_lawful T ninf pinf) (realFns_rangeOK T ninf pinf hp) d ho y⟩

/-- **T6 at `ℝ`**: `a = b`, `o > 0` ⇒ exactly `Normal(a, o²)`. -/
theorem degenerate_normal_real (d : Params ℝ) (hab : d.a = d.b) (ho : 0 < d.o) (y : ℝ) :
    cdf (realFns T ninf pinf) d y = Phi ((y - d.a) / d.o)
      ∧ pdf (realFns T ninf pinf) d y = phiStd ((y - d.a) / d.o) / d.o := by
  have hs : (realFns T ninf pinf).sqrt (d.o * d.o) = d.o := Real.sqrt_mul_self ho.le
  rw [cdf_degenerate_normal (realFns_lawful T ninf pinf) d hab ho, pdf_degenerate_normal (realFns_lawful T ninf pinf) d hab ho,
    hs]
  exact ⟨rfl, rfl⟩

/-- **T3, the identity**: partial moments of `N(μ, σ²)` on any `[a, b]` obey the recursion exactly as the
code writes it (`term0 = σ φ((a−μ)/σ)·a^j`, `term1 = −σ φ((b−μ)/σ)·b^j`). -/
theorem gauss_moment_recursion (μ σ a b : ℝ) (hσ : 0 < σ) (j : ℕ) :
    gmom μ σ a b (j + 1) = μ * gmom μ σ a b j + (j : ℝ) * (σ * σ) * gmom μ σ a b (j - 1)
      + σ * phiStd ((a - μ) / σ) * a ^ j + -σ * phiStd ((b - μ) / σ) * b ^ j := gmom_succ μ σ a b hσ j

/-- **T3 `int_moment_recursion`**: for integer order the model's base moments + upward loop return exactly
`∫₀¹ x^k dN(loc, scale²)(x)`. -/
theorem int_moment_recursion (μ σ : ℝ) (hσ : 0 < σ) (k : ℕ) :
    partialMomentInt (realFns T ninf pinf) μ σ k = ∫ x in (0:ℝ)..1, x ^ k * dens μ σ x :=
  partialMomentInt_eq T ninf pinf μ σ hσ k

/-- **T3 ⇒ Model = Spec formula for even `c`** (series regime): `cdf = clip(Φ(point) ± ∫₀¹ x^{c/2} dN)`. -/
theorem cdf_even_model_eq_formula (d : Params ℝ) (k : ℕ) (hc : d.c = 2 * k) (hab : d.a ≤ d.b)
    (hp : pointMass (realFns T ninf pinf) d = false) (h : regime (realFns T ninf pinf) d = .nothing) (y : ℝ) :
    cdf (realFns T ninf pinf) d y =
      clip (if d.convex then Phi ((y - d.b) / d.o) + gmom (locOf d y) (d.o / (d.b - d.a)) 0 1 k
            else Phi ((y - d.a) / d.o) - gmom (locOf d y) (d.o / (d.b - d.a)) 0 1 k) 0 1 := by
  have S : Series T ninf pinf d := ⟨hp, h⟩
  rw [cdf_series S]
  unfold cdfRaw
  rw [hc, partialMoment_even T ninf pinf _ _ S.s_pos k]
  cases d.convex <;> rfl

theorem pdf_even_model_eq_formula (d : Params ℝ) (k : ℕ) (hc : d.c = 2 * k + 2) (hab : d.a ≤ d.b)
    (hp : pointMass (realFns T ninf pinf) d = false) (h : regime (realFns T ninf pinf) d = .nothing) (y : ℝ) :
    pdf (realFns T ninf pinf) d y =
      max 0 ((d.c : ℝ) / (2 * (d.b - d.a)) * gmom (locOf d y) (d.o / (d.b - d.a)) 0 1 k) := by
  have S : Series T ninf pinf d := ⟨hp, h⟩
  rw [pdf_series S, show (d.c : ℤ) - 2 = ((2 * k : ℕ) : ℤ) by rw [hc]; push_cast; ring,
    partialMoment_even T ninf pinf _ _ S.s_pos k]

/-- **T3 for half-integer orders**: whatever knots/coefficients are selected (shipped table or Chebyshev
fallback), the piecewise recursion returns exactly `Σ_pieces ∫_{a_i}^{b_i} p_i dN(loc, scale²)`. -/
theorem frac_moment_model (μ σ : ℝ) (hσ : 0 < σ) (m2 : ℤ) :
    partialFractional (realFns T ninf pinf) μ σ m2
      = piecesSum μ σ (((approxCoeffs (realFns T ninf pinf) μ σ m2).1.zip
          (approxCoeffs (realFns T ninf pinf) μ σ m2).1.tail).zip (approxCoeffs (realFns T ninf pinf) μ σ m2).2) :=
  partialFractional_eq T ninf pinf μ σ hσ m2

/-- **T4 `frac_moment_error`**: if the pieces tile `[x₀, x₁]` and each polynomial is within `ε` of `f` on its
piece (`f = x^k`, `ε = sup|x^k − p|`; with C19 `ε ≤ 1.02·max_error` of the entry), then
`|∫_{x₀}^{x₁} f dN − Σ_pieces ∫ p_i dN| ≤ ε`. -/
theorem frac_moment_error (μ σ ε : ℝ) (hσ : 0 < σ) (hε0 : 0 ≤ ε) (f : ℝ → ℝ) (hf : Continuous f) (x0 x1 : ℝ)
    (ps : List ((ℝ × ℝ) × List ℝ)) (hc : ChainFrom x0 ps x1)
    (hε : ∀ pc ∈ ps, ∀ x ∈ Set.Icc pc.1.1 pc.1.2, |f x - polyEval pc.2 0 x| ≤ ε) :
    |(∫ x in x0..x1, f x * dens μ σ x) - piecesSum μ σ ps| ≤ ε :=
  chain_error_le μ σ ε hσ hε0 f hf x0 x1 ps hc hε

/-- **T2 `conv_identity`** (every `p = c/2 > 0`, so every `c ≥ 1` including the singular density of `c = 1`):
the mixture form of the law of `X + s·N`
(`X` on `[0,1]` with distribution function `x^p`: the normalised noise-free law; conditioning on `X`),
`H(t) = ∫₀¹ Φ((t−x)/s) d(x^p)`, equals the formula the implementation evaluates. -/
theorem conv_identity (p s t : ℝ) (hp : 0 < p) (hs : 0 < s) :
    mixture p s t = Phi ((t - 1) / s) + ∫ x in (0:ℝ)..1, x ^ p * dens t s x :=
  Opda.Noisy.conv_identity p s t hp hs

/-- **Model = Spec for even `c`, convex** (series regime, `ℝ`): `cdf(y) = H((y−a)/(b−a))` with `s = o/(b−a)`,
the law of `a + (b−a)X + E` at `y` — no clip, no approximation left. -/
theorem cdf_even_convex_model_eq_spec (d : Params ℝ) (k : ℕ) (hk : 1 ≤ k) (hc : d.c = 2 * k) (hcv : d.convex = true)
    (hab : d.a ≤ d.b) (hp : pointMass (realFns T ninf pinf) d = false)
    (h : regime (realFns T ninf pinf) d = .nothing) (y : ℝ) :
    cdf (realFns T ninf pinf) d y = mixture k (d.o / (d.b - d.a)) ((y - d.a) / (d.b - d.a)) := by
  rw [cdf_even_eq_cdfSpec ⟨hp, h⟩ k hk hc, cdfSpec_convex hcv, hc, Nat.cast_mul, Nat.cast_ofNat,
    mul_div_cancel_left₀ _ two_ne_zero]

/-- **Model = Spec for even `c`, concave**: `cdf(y) = 1 − H((b−y)/(b−a))`, the law of `b − (b−a)X + E` at `y`. -/
theorem cdf_even_concave_model_eq_spec (d : Params ℝ) (k : ℕ) (hk : 1 ≤ k) (hc : d.c = 2 * k) (hcv : d.convex = false)
    (hab : d.a ≤ d.b) (hp : pointMass (realFns T ninf pinf) d = false)
    (h : regime (realFns T ninf pinf) d = .nothing) (y : ℝ) :
    cdf (realFns T ninf pinf) d y = 1 - mixture k (d.o / (d.b - d.a)) ((d.b - y) / (d.b - d.a)) := by
  rw [cdf_even_eq_cdfSpec ⟨hp, h⟩ k hk hc, cdfSpec_concave hcv, hc, Nat.cast_mul, Nat.cast_ofNat,
    mul_div_cancel_left₀ _ two_ne_zero]

/-- **Model = Spec for the density, even `c ≥ 2`** (both shapes): `(b−a)·pdf(y)` is the mixture density
`h(loc) = ∫₀¹ dN(loc, scale²)(x) d(x^{c/2})`; the clip at `0` never acts. -/
theorem pdf_even_model_eq_spec (d : Params ℝ) (k : ℕ) (hc : d.c = 2 * k + 2) (hab : d.a ≤ d.b)
    (hp : pointMass (realFns T ninf pinf) d = false) (h : regime (realFns T ninf pinf) d = .nothing) (y : ℝ) :
    (d.b - d.a) * pdf (realFns T ninf pinf) d y = mixtureDensity (k + 1) (d.o / (d.b - d.a)) (locOf d y) :=
  pdf_even_eq_mixtureDensity ⟨hp, h⟩ k hc y

/-- **odd `c` (1, 3, …), convex: Model within `ε` of Spec** whenever the selected pieces tile `[0,1]` and are `ε`-accurate
(the provable uniform bound: `ε ≤ 1.02·max_error` of the entry by C19 — the 2.5e-5 of the property is
*not* implied and is decided numerically).  `_partial`: the bound is the provable `ε`, not the property's 2.5e-5; the
hypotheses on the selected pieces are discharged for the shipped table in section `shipped` below and are not
available for the Chebyshev fallback (which serves the pdf of `c = 1` only).  Concave shape: next theorem. -/
theorem cdf_odd_convex_within_eps_partial (d : Params ℝ) (k : ℕ) (hc : d.c = 2 * k + 1) (hcv : d.convex = true)
    (hab : d.a ≤ d.b) (hp : pointMass (realFns T ninf pinf) d = false)
    (h : regime (realFns T ninf pinf) d = .nothing) (y ε : ℝ) (hε0 : 0 ≤ ε)
    (hchain : ChainFrom 0
      (((approxCoeffs (realFns T ninf pinf) (locOf d y) (d.o / (d.b - d.a)) ((2 * k + 1 : ℕ) : ℤ)).1.zip
        (approxCoeffs (realFns T ninf pinf) (locOf d y) (d.o / (d.b - d.a)) ((2 * k + 1 : ℕ) : ℤ)).1.tail).zip
        (approxCoeffs (realFns T ninf pinf) (locOf d y) (d.o / (d.b - d.a)) ((2 * k + 1 : ℕ) : ℤ)).2) 1)
    (hε : ∀ pc ∈ (((approxCoeffs (realFns T ninf pinf) (locOf d y) (d.o / (d.b - d.a)) ((2 * k + 1 : ℕ) : ℤ)).1.zip
        (approxCoeffs (realFns T ninf pinf) (locOf d y) (d.o / (d.b - d.a)) ((2 * k + 1 : ℕ) : ℤ)).1.tail).zip
        (approxCoeffs (realFns T ninf pinf) (locOf d y) (d.o / (d.b - d.a)) ((2 * k + 1 : ℕ) : ℤ)).2),
      ∀ x ∈ Set.Icc pc.1.1 pc.1.2, |x ^ (((2 * k + 1 : ℕ) : ℝ) / 2) - polyEval pc.2 0 x| ≤ ε) :
    |cdf (realFns T ninf pinf) d y
        - mixture (((2 * k + 1 : ℕ) : ℝ) / 2) (d.o / (d.b - d.a)) ((y - d.a) / (d.b - d.a))| ≤ ε := by
  have := cdf_odd_error ⟨hp, h⟩ k hc y ε hε0 ⟨hchain, hε⟩
  rwa [cdfSpec_convex hcv, hc] at this

/-- **odd `c`, concave: Model within `ε` of Spec** `1 − H((b−y)/(b−a))` under the same two hypotheses on the selected
pieces (the analogue of `cdf_odd_convex_within_eps_partial`, written out).  `_partial` for the same reason. -/
theorem cdf_odd_concave_within_eps_partial (d : Params ℝ) (k : ℕ) (hc : d.c = 2 * k + 1) (hcv : d.convex = false)
    (hab : d.a ≤ d.b) (hp : pointMass (realFns T ninf pinf) d = false)
    (h : regime (realFns T ninf pinf) d = .nothing) (y ε : ℝ) (hε0 : 0 ≤ ε)
    (hchain : ChainFrom 0
      (((approxCoeffs (realFns T ninf pinf) (locOf d y) (d.o / (d.b - d.a)) ((2 * k + 1 : ℕ) : ℤ)).1.zip
        (approxCoeffs (realFns T ninf pinf) (locOf d y) (d.o / (d.b - d.a)) ((2 * k + 1 : ℕ) : ℤ)).1.tail).zip
        (approxCoeffs (realFns T ninf pinf) (locOf d y) (d.o / (d.b - d.a)) ((2 * k + 1 : ℕ) : ℤ)).2) 1)
    (hε : ∀ pc ∈ (((approxCoeffs (realFns T ninf pinf) (locOf d y) (d.o / (d.b - d.a)) ((2 * k + 1 : ℕ) : ℤ)).1.zip
        (approxCoeffs (realFns T ninf pinf) (locOf d y) (d.o / (d.b - d.a)) ((2 * k + 1 : ℕ) : ℤ)).1.tail).zip
        (approxCoeffs (realFns T ninf pinf) (locOf d y) (d.o / (d.b - d.a)) ((2 * k + 1 : ℕ) : ℤ)).2),
      ∀ x ∈ Set.Icc pc.1.1 pc.1.2, |x ^ (((2 * k + 1 : ℕ) : ℝ) / 2) - polyEval pc.2 0 x| ≤ ε) :
    |cdf (realFns T ninf pinf) d y
        - (1 - mixture (((2 * k + 1 : ℕ) : ℝ) / 2) (d.o / (d.b - d.a)) ((d.b - y) / (d.b - d.a)))| ≤ ε := by
  have := cdf_odd_error ⟨hp, h⟩ k hc y ε hε0 ⟨hchain, hε⟩
  rwa [cdfSpec_concave hcv, hc] at this

/-- **density, odd `c = 2k+3 ≥ 3`, both shapes: `(b−a)·pdf` within `(c/2)·ε` of the mixture density** whenever the pieces
selected for the order `(c−2)/2 = (2k+1)/2` (the moment `pdf` asks for) tile `[0,1]` and are `ε`-accurate.  `_partial`: the
bound is the provable one, not the property's `1e-4·max(1,v)`; `c = 1` (order `−½`: Chebyshev fallback / one step of
downward recursion) is out of scope. -/
theorem pdf_odd_within_eps_partial (d : Params ℝ) (k : ℕ) (hc : d.c = 2 * k + 3) (hab : d.a ≤ d.b)
    (hp : pointMass (realFns T ninf pinf) d = false) (h : regime (realFns T ninf pinf) d = .nothing) (y ε : ℝ)
    (hε0 : 0 ≤ ε)
    (hchain : ChainFrom 0
      (((approxCoeffs (realFns T ninf pinf) (locOf d y) (d.o / (d.b - d.a)) ((2 * k + 1 : ℕ) : ℤ)).1.zip
        (approxCoeffs (realFns T ninf pinf) (locOf d y) (d.o / (d.b - d.a)) ((2 * k + 1 : ℕ) : ℤ)).1.tail).zip
        (approxCoeffs (realFns T ninf pinf) (locOf d y) (d.o / (d.b - d.a)) ((2 * k + 1 : ℕ) : ℤ)).2) 1)
    (hε : ∀ pc ∈ (((approxCoeffs (realFns T ninf pinf) (locOf d y) (d.o / (d.b - d.a)) ((2 * k + 1 : ℕ) : ℤ)).1.zip
        (approxCoeffs (realFns T ninf pinf) (locOf d y) (d.o / (d.b - d.a)) ((2 * k + 1 : ℕ) : ℤ)).1.tail).zip
        (approxCoeffs (realFns T ninf pinf) (locOf d y) (d.o / (d.b - d.a)) ((2 * k + 1 : ℕ) : ℤ)).2),
      ∀ x ∈ Set.Icc pc.1.1 pc.1.2, |x ^ (((2 * k + 1 : ℕ) : ℝ) / 2) - polyEval pc.2 0 x| ≤ ε) :
    |(d.b - d.a) * pdf (realFns T ninf pinf) d y
        - mixtureDensity (((2 * k + 3 : ℕ) : ℝ) / 2) (d.o / (d.b - d.a)) (locOf d y)|
      ≤ ((2 * k + 3 : ℕ) : ℝ) / 2 * ε :=
  pdf_odd_error ⟨hp, h⟩ k hc y ε hε0 ⟨hchain, hε⟩

/-- **T5 `noiseless_bound` (`c ≥ 2`)**: for `0 < o < 1e-6 (b−a)` the value returned (the noise-free law, the noise
being deliberately ignored) is within `0.4·c·o/(b−a)` of its convolution with `N(0, o²)`, i.e. of the law of
`Z + E` (Lipschitz constant `c/(2(b−a))` of the noise-free cdf times `E|E| = o√(2/π)`).  The `c = 1` clause
(`0.83·√(o/(b−a))`) is `noiseless_bound_c1` below. -/
theorem noiseless_bound (d : Params ℝ) (hab : d.a < d.b) (hc : 2 ≤ d.c) (ho : 0 < d.o)
    (hp : pointMass (realFns T ninf pinf) d = false) (h : regime (realFns T ninf pinf) d = .noiseless) (y : ℝ) :
    |cdf (realFns T ninf pinf) d y
        - ∫ e, cdf (realFns T ninf pinf) d (y - e) ∂(ProbabilityTheory.gaussianReal 0 ⟨d.o ^ 2, sq_nonneg _⟩)|
      ≤ 0.4 * d.c * d.o / (d.b - d.a) :=
  Opda.Noisy.noiseless_bound T ninf pinf d hab hc ho hp h y

/-- **T5 `noiseless_bound_c1` (`c = 1`)**: for `0 < o < 1e-6 (b−a)` and `c = 1`, both shapes, every real `y`, the value
returned (the noise-free law `√((y−a)/(b−a))` resp. `1 − √((b−y)/(b−a))`, clipped) is within `0.83·√(o/(b−a))` of its
convolution with `N(0, o²)`: the noise-free cdf is Hölder-½ with constant `1/√(b−a)` on the whole line, and
`E√|E| = (2o²)^¼ Γ(¾)/√π ≤ 0.83·√o` (`Γ(¾) ≤ 1.2345` from the log-convexity of `Γ` between `9/2` and `5`). -/
theorem noiseless_bound_c1 (d : Params ℝ) (hab : d.a < d.b) (hc : d.c = 1) (ho : 0 < d.o)
    (hp : pointMass (realFns T ninf pinf) d = false) (h : regime (realFns T ninf pinf) d = .noiseless) (y : ℝ) :
    |cdf (realFns T ninf pinf) d y
        - ∫ e, cdf (realFns T ninf pinf) d (y - e) ∂(ProbabilityTheory.gaussianReal 0 ⟨d.o ^ 2, sq_nonneg _⟩)|
      ≤ 0.83 * Real.sqrt (d.o / (d.b - d.a)) :=
  Opda.Noisy.noiseless_bound_c1 T ninf pinf d hab hc ho hp h y

/-- **T5, `c = 1`, the exact constant**: the same difference is at most `K·√o/√(b−a)` with
`K·√o = (2o²)^¼ Γ(¾)/√π` (`K = 2^¼ Γ(¾)/√π = 0.82218…`), the absolute moment of order ½ of the noise written out. -/
theorem noiseless_bound_c1_exactK (d : Params ℝ) (hab : d.a < d.b) (hc : d.c = 1) (ho : 0 < d.o)
    (hp : pointMass (realFns T ninf pinf) d = false) (h : regime (realFns T ninf pinf) d = .noiseless) (y : ℝ) :
    |cdf (realFns T ninf pinf) d y
        - ∫ e, cdf (realFns T ninf pinf) d (y - e) ∂(ProbabilityTheory.gaussianReal 0 ⟨d.o ^ 2, sq_nonneg _⟩)|
      ≤ (2 * d.o ^ 2) ^ (1 / 4 : ℝ) * Real.Gamma (3 / 4) / Real.sqrt Real.pi / Real.sqrt (d.b - d.a) := by
  have := noiseless_bound_c1_moment T ninf pinf d hab hc hp h y
  rwa [integral_sqrt_abs_gaussianReal _ (sq_nnreal_ne_zero ho)] at this

end real

/- The Spec is `P[Z + E ≤ y]`: see the last paragraph of the header. -/
section law
open MeasureTheory ProbabilityTheory Opda.NoisyLaw
open scoped NNReal

/-- **independence ⇒ convolution ⇒ conditioning (Fubini)**: `X`, `Y` independent on any probability space ⇒
`P[X + Y ≤ y] = ∫ P[Y ≤ y − z] d(law of X)(z)`. -/
theorem law_of_independent_sum {Ω : Type} [MeasurableSpace Ω] (P : Measure Ω) [IsProbabilityMeasure P] (X Y : Ω → ℝ)
    (hX : Measurable X) (hY : Measurable Y) (hind : IndepFun X Y P) (y : ℝ) :
    P {ω | X ω + Y ω ≤ y} = ∫⁻ z, (P.map Y) (Set.Iic (y - z)) ∂(P.map X) :=
  indep_add_Iic P X Y hX hY hind y

/-- the same for the convolution of two laws on `ℝ` -/
theorem convolution_cdf (μ ν : Measure ℝ) [IsProbabilityMeasure μ] [IsProbabilityMeasure ν] (y : ℝ) :
    (μ ∗ ν) (Set.Iic y) = ∫⁻ z, ν (Set.Iic (y - z)) ∂μ := conv_Iic μ ν y

/-- Gaussian noise: `N(0, o²)(−∞, x] = Φ(x/o)` with the development's `Φ`; so for every law `μ` of `Z`
`(μ ∗ N(0, o²))(−∞, y] = ∫ Φ((y − z)/o) dμ(z)`. -/
theorem gaussian_noise_cdf (o : ℝ) (ho : 0 < o) (x : ℝ) :
    gaussianReal 0 (NNReal.mk (o ^ 2) (sq_nonneg o)) (Set.Iic x) = ENNReal.ofReal (Phi (x / o)) := gaussian_Iic o ho x

theorem mixture_form_any_law (μ : Measure ℝ) [IsProbabilityMeasure μ] (o : ℝ) (ho : 0 < o) (y : ℝ) :
    ((μ ∗ gaussianReal 0 (NNReal.mk (o ^ 2) (sq_nonneg o))) (Set.Iic y)).toReal = ∫ z, Phi ((y - z) / o) ∂μ :=
  conv_gaussian_Iic μ o ho y

/-- `Z ~ Quadratic(a, b, c, shape)`: the distribution function of `quadLaw` is the noise-free class's `cdf` (C05's model) -/
theorem quadratic_law_cdf (p : Opda.Quad.Params ℝ) (hab : p.a < p.b) (hc : 0 < p.c) (y : ℝ) :
    quadLaw p (Set.Iic y) = ENNReal.ofReal (Opda.Quad.cdf p y) := quadLaw_Iic p hab hc y

theorem sumLaw_def (d : Params ℝ) :
    sumLaw d = (uniform01.map (Opda.Sample.noisyQuadPart ⟨d.a, d.b, d.c, d.convex⟩))
      ∗ gaussianReal 0 (NNReal.mk (d.o ^ 2) (sq_nonneg d.o)) := rfl

/-- **`spec_is_law_of_sum`**: for every `a < b`, `c ≥ 1`, `o > 0`, both shapes and every real `y`, the Spec the theorems
of this file are stated with — `H((y−a)/(b−a))` (convex) resp. `1 − H((b−y)/(b−a))` (concave),
`H(t) = ∫₀¹ Φ((t−x)/s) d(x^{c/2})`, `s = o/(b−a)` — is the distribution function at `y` of the convolution of the law of `Z`
with `N(0, o²)`. -/
theorem spec_is_law_of_sum (d : Params ℝ) (hab : d.a < d.b) (hc : 1 ≤ d.c) (ho : 0 < d.o) (y : ℝ) :
    (if d.convex then mixture ((d.c : ℝ) / 2) (d.o / (d.b - d.a)) ((y - d.a) / (d.b - d.a))
      else 1 - mixture ((d.c : ℝ) / 2) (d.o / (d.b - d.a)) ((d.b - y) / (d.b - d.a)))
      = ((quadLaw ⟨d.a, d.b, d.c, d.convex⟩ ∗ gaussianReal 0 (NNReal.mk (d.o ^ 2) (sq_nonneg d.o))) (Set.Iic y)).toReal :=
  spec_is_law d hab hc ho y

/-- … i.e. `P[Z + E ≤ y]` for **any** independent `Z ~ Quadratic(a, b, c, shape)`, `E ~ N(0, o²)` on any probability space -/
theorem spec_is_law_of_independent_sum {Ω : Type} [MeasurableSpace Ω] (P : Measure Ω) [IsProbabilityMeasure P]
    (Z E : Ω → ℝ) (hZ : Measurable Z) (hE : Measurable E) (hind : IndepFun Z E P) (d : Params ℝ)
    (hZlaw : P.map Z = quadLaw ⟨d.a, d.b, d.c, d.convex⟩)
    (hElaw : P.map E = gaussianReal 0 (NNReal.mk (d.o ^ 2) (sq_nonneg d.o)))
    (hab : d.a < d.b) (hc : 1 ≤ d.c) (ho : 0 < d.o) (y : ℝ) :
    (P {ω | Z ω + E ω ≤ y}).toReal
      = (if d.convex then mixture ((d.c : ℝ) / 2) (d.o / (d.b - d.a)) ((y - d.a) / (d.b - d.a))
         else 1 - mixture ((d.c : ℝ) / 2) (d.o / (d.b - d.a)) ((d.b - y) / (d.b - d.a))) :=
  sum_law_is_spec P Z E hZ hE hind d hZlaw hElaw hab hc ho y

/-- **the density**: the law of `Z + E` is absolutely continuous with density `h(loc y)/(b−a)`,
`h(t) = ∫₀¹ dN(t, s²)(x) d(x^{c/2})` the mixture density the pdf theorems of this file are stated with (every `a < b`,
`c ≥ 1`, `o > 0`, both shapes). -/
theorem law_of_sum_density (d : Params ℝ) (hab : d.a < d.b) (hc : 1 ≤ d.c) (ho : 0 < d.o) :
    sumLaw d = volume.withDensity (fun y => ENNReal.ofReal
      (mixtureDensity ((d.c : ℝ) / 2) (d.o / (d.b - d.a)) (locOf d y) / (d.b - d.a))) :=
  sumLaw_withDensity d hab hc ho

variable (T : List (ℕ × List (Entry ℝ))) (ninf pinf : ℝ)

/-- **`cdf_even_model_eq_law_of_sum`** — `cdf_even_convex_model_eq_spec` and `cdf_even_concave_model_eq_spec` with the
right-hand side as the law of the sum: for even `c ≥ 2`, both shapes, in the series regime, the model's cdf over `ℝ` *is*
`P[Z + E ≤ y]`. -/
theorem cdf_even_model_eq_law_of_sum (d : Params ℝ) (k : ℕ) (hk : 1 ≤ k) (hc : d.c = 2 * k) (hab : d.a ≤ d.b)
    (hp : pointMass (realFns T ninf pinf) d = false) (h : regime (realFns T ninf pinf) d = .nothing) (y : ℝ) :
    cdf (realFns T ninf pinf) d y = ((sumLaw d) (Set.Iic y)).toReal :=
  cdf_even_eq_law T ninf pinf d k hk hc hab hp h y

/-- `pdf_even_model_eq_spec` in that form: for even `c ≥ 2` the model's pdf over `ℝ` is a density of the law of `Z + E` -/
theorem pdf_even_model_is_density_of_law_of_sum (d : Params ℝ) (k : ℕ) (hc : d.c = 2 * k + 2) (hab : d.a ≤ d.b)
    (hp : pointMass (realFns T ninf pinf) d = false) (h : regime (realFns T ninf pinf) d = .nothing) :
    sumLaw d = volume.withDensity (fun y => ENNReal.ofReal (pdf (realFns T ninf pinf) d y)) :=
  pdf_even_is_density T ninf pinf d k hc hab hp h

/-- the quantity the noiseless-regime bounds compare with, the noise-free law smoothed by `N(0, o²)` (conditioning on `E`
instead of `Z`), is `P[Z + E ≤ y]` too … -/
theorem noiseless_smoothing_is_law_of_sum (d : Params ℝ) (hab : d.a < d.b) (hc : 1 ≤ d.c)
    (hp : pointMass (realFns T ninf pinf) d = false) (h : regime (realFns T ninf pinf) d = .noiseless) (y : ℝ) :
    ∫ e, cdf (realFns T ninf pinf) d (y - e) ∂(gaussianReal 0 ⟨d.o ^ 2, sq_nonneg _⟩)
      = ((sumLaw d) (Set.Iic y)).toReal :=
  smoothed_noiseless_is_law T ninf pinf d hab hc hp h y

/-- … so `noiseless_bound` and `noiseless_bound_c1` bound the distance to `P[Z + E ≤ y]` -/
theorem noiseless_bound_law_of_sum (d : Params ℝ) (hab : d.a < d.b) (hc : 2 ≤ d.c) (ho : 0 < d.o)
    (hp : pointMass (realFns T ninf pinf) d = false) (h : regime (realFns T ninf pinf) d = .noiseless) (y : ℝ) :
    |cdf (realFns T ninf pinf) d y - ((sumLaw d) (Set.Iic y)).toReal| ≤ 0.4 * d.c * d.o / (d.b - d.a) :=
  noiseless_bound_law T ninf pinf d hab hc ho hp h y

theorem noiseless_bound_c1_law_of_sum (d : Params ℝ) (hab : d.a < d.b) (hc : d.c = 1) (ho : 0 < d.o)
    (hp : pointMass (realFns T ninf pinf) d = false) (h : regime (realFns T ninf pinf) d = .noiseless) (y : ℝ) :
    |cdf (realFns T ninf pinf) d y - ((sumLaw d) (Set.Iic y)).toReal| ≤ 0.83 * Real.sqrt (d.o / (d.b - d.a)) :=
  noiseless_bound_c1_law T ninf pinf d hab hc ho hp h y

end law

/- End to end with the shipped table (C06 ∘ C19).
`tableR := castTable Opda.Gen.tableQ`: the table regenerated from `/repo/src/opda/_approximations.json` on every run, every
double read as the exact real it denotes, in the form the model's `Fns.table` field takes (same rows, order and keys;
`max_error` dropped, the algorithm never reads it).  `rowOf T m` is the first row of key `m` (`T.find? (·.1 == m)`),
`selectR es σ` the first entry with `min_scale ≤ σ` (`es.find? (min_scale ≤ σ)`): the code's two look-ups, which the
model's `tableLookup` performs on `tableR` (`Opda.Noisy.tableLookup_castTable`; at a rational scale `selectR` is C19's
`select`: `Opda.Noisy.selectR_cast`).  The proofs use `Opda.Gen.Cert.struct_ok` and `Opda.Gen.Cert.table_bound` (53
kernel-checked certificates): a change of the JSON that breaks a certificate breaks these theorems. -/
section shipped
open Opda.Gen Opda.Table
variable (ninf pinf : ℝ)

/-- the shipped table has a row for each of the keys 1, 3, 5, 7, 9 (`2·exponent`): the odd `c` of the property's
range `1..10` for the cdf, and `c − 2` for the density of `c ∈ {3,5,7,9}` (and of the out-of-range 11). -/
theorem shipped_table_keys (m : ℕ) (hm : m ∈ [1, 3, 5, 7, 9]) : ∃ row ∈ tableQ, row.1 = m :=
  Opda.Noisy.shipped_key_present m hm

/-- **odd `c`, both shapes, shipped table, series regime, no hypothesis on the pieces.**  For every `a ≤ b`, `o` in
the series regime (`1e-6(b−a) ≤ o < 10(b−a)`, which forces `a < b`, `o > 0`), every odd `c` that has a row in the shipped
table: the scale `o/(b−a)` selects an entry `e` of that row, and **at every real `y`** the model's cdf, evaluated in exact
real arithmetic with `Φ`, `φ` and the shipped coefficients, is within `1.02·max_error(e)` of the Spec
`H((y−a)/(b−a))` (convex) resp. `1 − H((b−y)/(b−a))` (concave), `H(t) = ∫₀¹ Φ((t−x)/s) d(x^{c/2})`, `s = o/(b−a)`.
`_partial`: `1.02·max_error` (≤ 2.5e-5 for `c ∈ {7, 9}`: `cdf_c7_c9_shipped_table_tolerance`; at the time of writing
2.5e-7 … 8.1e-4 depending on the entry, not checked) is in general **weaker** than the property's 2.5e-5, which is a numerical fact
decided on every run by the correspondence and the mpmath oracle; float rounding is not covered. -/
theorem cdf_odd_shipped_table_partial (d : Params ℝ) (k : ℕ) (hc : d.c = 2 * k + 1) (hab : d.a ≤ d.b)
    (hp : pointMass (realFns tableR ninf pinf) d = false) (h : regime (realFns tableR ninf pinf) d = .nothing)
    (hkey : ∃ row ∈ tableQ, row.1 = d.c) :
    ∃ row e, rowOf tableQ d.c = some row ∧ selectR row.2 (d.o / (d.b - d.a)) = some e ∧
      ∀ y : ℝ, |cdf (realFns tableR ninf pinf) d y
          - (if d.convex then mixture ((d.c : ℝ) / 2) (d.o / (d.b - d.a)) ((y - d.a) / (d.b - d.a))
             else 1 - mixture ((d.c : ℝ) / 2) (d.o / (d.b - d.a)) ((d.b - y) / (d.b - d.a)))|
        ≤ 1.02 * (e.maxError : ℝ) :=
  cdf_odd_castTable tableQ Cert.struct_ok Cert.table_bound ⟨hp, h⟩ k hc hkey

/-- the uniform form: whatever the scale, the error is at most `1.02 ·` the largest `max_error` recorded in the row of
`c` (`rowMaxError row = max over the row's entries`).  `_partial` as above. -/
theorem cdf_odd_shipped_table_uniform_partial (d : Params ℝ) (k : ℕ) (hc : d.c = 2 * k + 1) (hab : d.a ≤ d.b)
    (hp : pointMass (realFns tableR ninf pinf) d = false) (h : regime (realFns tableR ninf pinf) d = .nothing)
    (row : ℕ × List EntryQ) (hrow : rowOf tableQ d.c = some row) (y : ℝ) :
    |cdf (realFns tableR ninf pinf) d y
        - (if d.convex then mixture ((d.c : ℝ) / 2) (d.o / (d.b - d.a)) ((y - d.a) / (d.b - d.a))
           else 1 - mixture ((d.c : ℝ) / 2) (d.o / (d.b - d.a)) ((d.b - y) / (d.b - d.a)))|
      ≤ 1.02 * (rowMaxError row : ℝ) :=
  cdf_odd_castTable_uniform tableQ Cert.struct_ok Cert.table_bound ⟨hp, h⟩ k hc row hrow y

/-- **density, odd `c ≥ 3`, both shapes, shipped table, series regime.**  `pdf` needs the moment of order `(c−2)/2`; if
the shipped table has a row of key `c − 2` (`c ∈ {3,5,7,9}`), the scale selects an entry `e` of it and at every real `y`
`(b−a)·pdf(y)` is within `(c/2)·1.02·max_error(e)` of the mixture density `h(loc) = ∫₀¹ dN(loc, s²)(x) d(x^{c/2})`.
`_partial`: weaker than the property's `1e-4·max(1,v)` (decided numerically); `c = 1` (order `−½`, Chebyshev fallback /
downward step) is not covered. -/
theorem pdf_odd_shipped_table_partial (d : Params ℝ) (k : ℕ) (hc : d.c = 2 * k + 3) (hab : d.a ≤ d.b)
    (hp : pointMass (realFns tableR ninf pinf) d = false) (h : regime (realFns tableR ninf pinf) d = .nothing)
    (hkey : ∃ row ∈ tableQ, row.1 = d.c - 2) :
    ∃ row e, rowOf tableQ (d.c - 2) = some row ∧ selectR row.2 (d.o / (d.b - d.a)) = some e ∧
      ∀ y : ℝ, |(d.b - d.a) * pdf (realFns tableR ninf pinf) d y
            - mixtureDensity ((d.c : ℝ) / 2) (d.o / (d.b - d.a)) (locOf d y)|
          ≤ (d.c : ℝ) / 2 * (1.02 * (e.maxError : ℝ)) :=
  pdf_odd_castTable tableQ Cert.struct_ok Cert.table_bound ⟨hp, h⟩ k hc hkey

theorem pdf_odd_shipped_table_uniform_partial (d : Params ℝ) (k : ℕ) (hc : d.c = 2 * k + 3) (hab : d.a ≤ d.b)
    (hp : pointMass (realFns tableR ninf pinf) d = false) (h : regime (realFns tableR ninf pinf) d = .nothing)
    (row : ℕ × List EntryQ) (hrow : rowOf tableQ (d.c - 2) = some row) (y : ℝ) :
    |(d.b - d.a) * pdf (realFns tableR ninf pinf) d y
        - mixtureDensity ((d.c : ℝ) / 2) (d.o / (d.b - d.a)) (locOf d y)|
      ≤ (d.c : ℝ) / 2 * (1.02 * (rowMaxError row : ℝ)) :=
  pdf_odd_castTable_uniform tableQ Cert.struct_ok Cert.table_bound ⟨hp, h⟩ k hc row hrow y

/-- **`c ∈ {7, 9}`: the property's 2.5e-5 itself, as a theorem in exact real arithmetic.**  Every entry of the rows of key
7 and 9 of the shipped table records `1.02·max_error ≤ 2.5e-5` (checked by the kernel on the regenerated table), so for
both shapes, every scale of the series regime and every real `y` the model's cdf is within 2.5e-5 of the Spec.  (What
remains compared only for these `c`: float rounding, and the regimes other than the series regime.) -/
theorem cdf_c7_c9_shipped_table_tolerance (d : Params ℝ) (hc : d.c = 7 ∨ d.c = 9) (hab : d.a ≤ d.b)
    (hp : pointMass (realFns tableR ninf pinf) d = false) (h : regime (realFns tableR ninf pinf) d = .nothing)
    (y : ℝ) :
    |cdf (realFns tableR ninf pinf) d y
        - (if d.convex then mixture ((d.c : ℝ) / 2) (d.o / (d.b - d.a)) ((y - d.a) / (d.b - d.a))
           else 1 - mixture ((d.c : ℝ) / 2) (d.o / (d.b - d.a)) ((d.b - y) / (d.b - d.a)))| ≤ 2.5e-5 :=
  cdf_c7_c9_shipped ⟨hp, h⟩ hc y

/-- **`c = 9`: the property's `1e-4·max(1, v)` for the density, as a theorem in exact real arithmetic**: the row of key 7
records `(9/2)·1.02·max_error ≤ 1e-4`, so `(b−a)·pdf(y)` is within `1e-4` of the mixture density `v` at every `y`. -/
theorem pdf_c9_shipped_table_tolerance (d : Params ℝ) (hc : d.c = 9) (hab : d.a ≤ d.b)
    (hp : pointMass (realFns tableR ninf pinf) d = false) (h : regime (realFns tableR ninf pinf) d = .nothing)
    (y : ℝ) :
    |(d.b - d.a) * pdf (realFns tableR ninf pinf) d y
        - mixtureDensity ((d.c : ℝ) / 2) (d.o / (d.b - d.a)) (locOf d y)| ≤ 1e-4 :=
  pdf_c9_shipped ⟨hp, h⟩ hc y

/-- `cdf_odd_shipped_table_uniform_partial` against the law of the sum: odd `c` with a row, both shapes, series regime,
every real `y`: `|cdf(y) − P[Z + E ≤ y]| ≤ 1.02 ·` (largest `max_error` of the row).  `_partial` as above. -/
theorem cdf_odd_shipped_table_law_of_sum_partial (d : Params ℝ) (k : ℕ) (hc : d.c = 2 * k + 1) (hab : d.a ≤ d.b)
    (hp : pointMass (realFns tableR ninf pinf) d = false) (h : regime (realFns tableR ninf pinf) d = .nothing)
    (row : ℕ × List EntryQ) (hrow : rowOf tableQ d.c = some row) (y : ℝ) :
    |cdf (realFns tableR ninf pinf) d y - ((Opda.NoisyLaw.sumLaw d) (Set.Iic y)).toReal|
      ≤ 1.02 * (rowMaxError row : ℝ) :=
  Opda.NoisyLaw.cdf_odd_shipped_uniform_law ninf pinf d k hc hab hp h row hrow y

/-- `cdf_c7_c9_shipped_table_tolerance` against the law of the sum: **`|cdf(y) − P[Z + E ≤ y]| ≤ 2.5e-5`** for
`c ∈ {7, 9}`, both shapes, every scale of the series regime and every real `y`, in exact real arithmetic. -/
theorem cdf_c7_c9_law_of_sum_tolerance (d : Params ℝ) (hc : d.c = 7 ∨ d.c = 9) (hab : d.a ≤ d.b)
    (hp : pointMass (realFns tableR ninf pinf) d = false) (h : regime (realFns tableR ninf pinf) d = .nothing)
    (y : ℝ) :
    |cdf (realFns tableR ninf pinf) d y - ((Opda.NoisyLaw.sumLaw d) (Set.Iic y)).toReal| ≤ 2.5e-5 :=
  Opda.NoisyLaw.cdf_c7_c9_shipped_law ninf pinf d hc hab hp h y

end shipped

/-- a parameter setting in the noiseless regime with positive noise exists: `a=0, b=1, c=3, o=1e-7` -/
example : pointMass (realFns [] 0 0) { a := 0, b := 1, c := 3, o := 1/10000000, convex := false } = false
    ∧ regime (realFns [] 0 0) { a := 0, b := 1, c := 3, o := 1/10000000, convex := false } = .noiseless := by
  constructor
  · exact pointMass_eq_false (realFns_lawful [] 0 0) _ (.inl (by norm_num))
  · rw [regime_noiseless_iff (realFns_lawful [] 0 0)]; norm_num

/-- the hypotheses of `noiseless_bound_c1` are satisfiable: `a=0, b=1, c=1, o=1e-7`, either shape -/
example (cv : Bool) : (0:ℝ) < 1 ∧ (1:ℕ) = 1 ∧ (0:ℝ) < 1/10000000
    ∧ pointMass (realFns [] 0 0) { a := 0, b := 1, c := 1, o := 1/10000000, convex := cv } = false
    ∧ regime (realFns [] 0 0) { a := 0, b := 1, c := 1, o := 1/10000000, convex := cv } = .noiseless := by
  refine ⟨by norm_num, rfl, by norm_num, ?_, ?_⟩
  · exact pointMass_eq_false (realFns_lawful [] 0 0) _ (.inl (by norm_num))
  · rw [regime_noiseless_iff (realFns_lawful [] 0 0)]; norm_num

example : Lawful (realFns [] 0 0) ∧ RangeOK (realFns [] 0 0) :=
  ⟨realFns_lawful [] 0 0, realFns_rangeOK [] 0 0 (le_refl _)⟩

/-- a parameter setting in the series regime exists: `a=0, b=1, c=3, o=1/10` -/
example : pointMass (realFns [] 0 0) { a := 0, b := 1, c := 3, o := 1/10, convex := true } = false
    ∧ regime (realFns [] 0 0) { a := 0, b := 1, c := 3, o := 1/10, convex := true } = .nothing := by
  constructor
  · exact pointMass_eq_false (realFns_lawful [] 0 0) _ (.inl (by norm_num))
  · rw [regime_nothing_iff (realFns_lawful [] 0 0)]; norm_num

/-- two pieces tiling `[0, 1]` -/
example : ChainFrom 0 [((0, 1/2), [0, 1]), ((1/2, 1), [1/4, 1/2])] 1 :=
  .cons 0 (1/2) 1 _ _ (by norm_num) (.cons (1/2) 1 1 _ _ (by norm_num) (.nil 1))

/-- the hypotheses of the shipped-table theorems are satisfiable: `a=0, b=1, c=3, o=1/10` (either shape) is in the
series regime of the instance that reads the shipped table, and the table has rows of key `c = 3` and `c − 2 = 1` -/
example (cv : Bool) : pointMass (realFns tableR 0 0) { a := 0, b := 1, c := 3, o := 1/10, convex := cv } = false
    ∧ regime (realFns tableR 0 0) { a := 0, b := 1, c := 3, o := 1/10, convex := cv } = .nothing
    ∧ (∃ row ∈ Opda.Gen.tableQ, row.1 = 3) ∧ (∃ row ∈ Opda.Gen.tableQ, row.1 = 3 - 2) := by
  refine ⟨?_, ?_, shipped_table_keys 3 (by simp), shipped_table_keys 1 (by simp)⟩
  · exact pointMass_eq_false (realFns_lawful tableR 0 0) _ (.inl (by norm_num))
  · rw [regime_nothing_iff (realFns_lawful tableR 0 0)]; norm_num

/-- the hypotheses of `spec_is_law_of_independent_sum` are satisfiable: on the product space `ℝ × ℝ` with the product of the
two laws the coordinates are independent with the required laws (`a=0, b=1, c=1, o=1/10`, concave) -/
example : ∃ (P : MeasureTheory.Measure (ℝ × ℝ)) (_ : MeasureTheory.IsProbabilityMeasure P) (Z E : ℝ × ℝ → ℝ)
    (d : Params ℝ), Measurable Z ∧ Measurable E ∧ ProbabilityTheory.IndepFun Z E P
      ∧ P.map Z = Opda.NoisyLaw.quadLaw ⟨d.a, d.b, d.c, d.convex⟩
      ∧ P.map E = ProbabilityTheory.gaussianReal 0 (NNReal.mk (d.o ^ 2) (sq_nonneg d.o))
      ∧ d.a < d.b ∧ 1 ≤ d.c ∧ 0 < d.o :=
  Opda.NoisyLaw.exists_independent_pair { a := 0, b := 1, c := 1, o := 1/10, convex := false }
    (by norm_num) (by norm_num) (by norm_num)

end Opda.Props.C06

#opda_audit Opda.Props.C06

import OpdaProofs.Audit
import OpdaProofs.Emp
import OpdaProofs.ExtInst
import OpdaProofs.EmpMore
import OpdaProofs.EmpMoments
import Mathlib.Data.EReal.Basic
/-!
# C03 — EmpiricalDistribution pmf/cdf/ppf are the exact weighted step distribution

The lemmas these property theorems rest on are in `OpdaProofs/Emp.lean`, `EmpMore.lean`, `EmpMoments.lean`.  The generic statements hold
for values in *any* linear order with ⊥/⊤ and weights in *any* linearly ordered field; the `_driver`
corollaries restate them for the very terms the executable model evaluates (`Ext` values, `Rat`
weights, `Ext.negInf`/`Ext.posInf` as the padding atoms), so that what the correspondence check
runs is what the theorems are about.
-/
namespace Opda.Props.C03
open Opda.Emp Opda.Wire

variable {E α : Type} [LinearOrder E] [OrderBot E] [OrderTop E]
  [Field α] [LinearOrder α] [IsStrictOrderedRing α]

/-- cdf(y) = total weight of observations ≤ y (normalised), for every observation list (ties, zero
weights, infinite values), every bound pair, every query. -/
theorem cdf_eq_weight_le (a b y : E) (obs : List (E × α)) :
    cdf (support ⊥ ⊤ a b obs) y = weightLE y obs / total obs := cdf_support a b y obs

/-- pmf(y) = total weight of observations equal to y (normalised). -/
theorem pmf_eq_weight_eq (a b y : E) (obs : List (E × α)) :
    pmf (support ⊥ ⊤ a b obs) y = weightEq y obs / total obs := pmf_support a b y obs

/-- Galois law of the generalised inverse restricted to the support: for `0 < q ≤ 1`, `y ≥ a`,
`ppf q ≤ y ↔ q ≤ cdf y`. -/
theorem ppf_galois (a b y : E) (obs : List (E × α)) (hn : NonNeg obs) (htot : 0 < total obs)
    (q : α) (hq0 : 0 < q) (hq1 : q ≤ 1) (hay : a ≤ y) :
    ppf a (support ⊥ ⊤ a b obs) q ≤ y ↔ q ≤ cdf (support ⊥ ⊤ a b obs) y :=
  ppf_le_iff a b y obs hn htot q hq0 hq1 hay

/-- cdf is non-decreasing. -/
theorem cdf_monotone (a b : E) (obs : List (E × α)) (hn : NonNeg obs) (htot : 0 < total obs) (y y' : E) (h : y ≤ y') :
    cdf (support ⊥ ⊤ a b obs) y ≤ cdf (support ⊥ ⊤ a b obs) y' := cdf_mono a b obs hn htot y y' h

/-- cdf takes its values in `[0,1]`. -/
theorem cdf_in_unit_interval (a b : E) (obs : List (E × α)) (hn : NonNeg obs) (htot : 0 < total obs) (y : E) :
    0 ≤ cdf (support ⊥ ⊤ a b obs) y ∧ cdf (support ⊥ ⊤ a b obs) y ≤ 1 := cdf_range a b obs hn htot y

/-- cdf is 0 below the sample. -/
theorem cdf_zero_below (a b : E) (obs : List (E × α)) (y : E) (h : ∀ p ∈ obs, y < p.1) :
    cdf (support ⊥ ⊤ a b obs) y = 0 := by
  rw [cdf_support, weightLE_eq_zero_of_all_gt y obs h, zero_div]

/-- cdf is 1 from the maximum of the sample on. -/
theorem cdf_one_from_max (a b : E) (obs : List (E × α)) (htot : 0 < total obs) (y : E) (h : ∀ p ∈ obs, p.1 ≤ y) :
    cdf (support ⊥ ⊤ a b obs) y = 1 := by
  rw [cdf_support, weightLE_eq_phiSum, phiSum_congr (ψ := fun _ => 1) fun p hp => if_pos (h p hp), ← total_eq_phiSum,
    div_self htot.ne']

/-- ppf never returns a point below the lower bound. -/
theorem ppf_ge_lower_bound (a : E) (supp : List (E × α)) (q : α) : a ≤ ppf a supp q := le_ppf a supp q

/-- ppf is non-decreasing in `q` on `(0,1]` (`ppf_monotone_closed`: on `[0,1]`). -/
theorem ppf_monotone (a b : E) (obs : List (E × α)) (hn : NonNeg obs) (htot : 0 < total obs)
    (q q' : α) (hq0 : 0 < q) (hqq : q ≤ q') (hq1 : q' ≤ 1) :
    ppf a (support ⊥ ⊤ a b obs) q ≤ ppf a (support ⊥ ⊤ a b obs) q' := ppf_mono a b obs hn htot q q' hq0.le hqq hq1

/-- ppf(cdf(v)) = v at every atom `v ≥ a` where the cdf jumps (positive weight). -/
theorem ppf_cdf_at_atom (a b v : E) (obs : List (E × α)) (hn : NonNeg obs) (htot : 0 < total obs) (hav : a ≤ v)
    (hpos : 0 < cdf (support ⊥ ⊤ a b obs) v)
    (hjump : ∀ y, y < v → cdf (support ⊥ ⊤ a b obs) y < cdf (support ⊥ ⊤ a b obs) v) :
    ppf a (support ⊥ ⊤ a b obs) (cdf (support ⊥ ⊤ a b obs) v) = v := by
  have hq1 := (cdf_range a b obs hn htot v).2
  apply le_antisymm ((ppf_le_iff a b v obs hn htot _ hpos hq1 hav).mpr le_rfl)
  by_contra hlt
  exact absurd ((ppf_le_iff a b _ obs hn htot _ hpos hq1 (le_ppf a _ _)).mp le_rfl)
    (not_le.mpr (hjump _ (not_le.mp hlt)))

/-- non-vacuity: a tied, weighted sample with a zero weight and an infinite observation meets the hypotheses. -/
example : NonNeg ([(Ext.fin 1, (1:ℚ)/2), (Ext.fin 1, 1/4), (Ext.posInf, 0), (Ext.fin (-3), 1/4)] : List (Ext × ℚ))
    ∧ (0:ℚ) < total ([(Ext.fin 1, (1:ℚ)/2), (Ext.fin 1, 1/4), (Ext.posInf, 0), (Ext.fin (-3), 1/4)] : List (Ext × ℚ)) := by
  unfold NonNeg
  decide +kernel


/-- **ppf(0) = a** for every sample with non-negative weights (ties, zeros, infinite values, any bounds); positivity of
the total weight is not needed. -/
theorem ppf_zero (a b : E) (obs : List (E × α)) (hn : NonNeg obs) :
    ppf a (support ⊥ ⊤ a b obs) 0 = a := Opda.Emp.ppf_zero a b obs hn

/-- sharp form of `ppf_zero`: only the weight sitting exactly at `⊥` (−∞) matters — it must not be negative relative to
the total.  (With a negative weight at −∞ the first cumulative level is negative, `argmax(0 ≤ cumsum)` moves on and
`ppf 0` is *not* `a`.) -/
theorem ppf_zero_sharp (a b : E) (obs : List (E × α)) (h : 0 ≤ weightEq ⊥ obs / total obs) :
    ppf a (support ⊥ ⊤ a b obs) 0 = a := ppf_zero_of_bot_weight a b obs h

/-- without an observation at −∞ no condition on the weights is needed at all -/
theorem ppf_zero_no_bot_observation (a b : E) (obs : List (E × α)) (h : ∀ p ∈ obs, p.1 ≠ ⊥) :
    ppf a (support ⊥ ⊤ a b obs) 0 = a := by
  apply ppf_zero_of_bot_weight
  rw [weightEq_eq_zero_of_all_gt ⊥ obs fun p hp => (h p hp).bot_lt, zero_div]

/-- the sign condition at −∞ is necessary: with weight −1 at −∞ (and 2 at 0, total 1 > 0, `a = −∞`) `ppf 0 = 0 ≠ a`. -/
example : ppf Ext.negInf (support ⊥ ⊤ Ext.negInf (Ext.fin 0) ([(Ext.negInf, -1), (Ext.fin 0, 2)] : List (Ext × ℚ))) 0
    = Ext.fin 0 := by
  decide +kernel

/-- **ppf(1) is the smallest point of `[a, +∞]` where the cdf reaches 1.** -/
theorem ppf_one_least_full_point (a b : E) (obs : List (E × α)) (hn : NonNeg obs) (htot : 0 < total obs) :
    cdf (support ⊥ ⊤ a b obs) (ppf a (support ⊥ ⊤ a b obs) 1) = 1
      ∧ ∀ y, a ≤ y → cdf (support ⊥ ⊤ a b obs) y = 1 → ppf a (support ⊥ ⊤ a b obs) 1 ≤ y :=
  ⟨le_antisymm (cdf_range a b obs hn htot _).2
      ((ppf_le_iff a b _ obs hn htot 1 zero_lt_one le_rfl (le_ppf _ _ _)).mp le_rfl),
    fun y hay hy => (ppf_le_iff a b y obs hn htot 1 zero_lt_one le_rfl hay).mpr hy.ge⟩

/-- ppf is non-decreasing on the whole closed interval `[0,1]` (the level 0 included). -/
theorem ppf_monotone_closed (a b : E) (obs : List (E × α)) (hn : NonNeg obs) (htot : 0 < total obs)
    (q q' : α) (hq0 : 0 ≤ q) (hqq : q ≤ q') (hq1 : q' ≤ 1) :
    ppf a (support ⊥ ⊤ a b obs) q ≤ ppf a (support ⊥ ⊤ a b obs) q' := ppf_mono a b obs hn htot q q' hq0 hqq hq1

/-- **the cdf is constant between consecutive observations** (any weights): no observation in `(y, y']` ⇒ `cdf y = cdf y'`. -/
theorem cdf_step (a b : E) (obs : List (E × α)) (y y' : E) (h : y ≤ y')
    (hno : ∀ p ∈ obs, ¬ (y < p.1 ∧ p.1 ≤ y')) :
    cdf (support ⊥ ⊤ a b obs) y = cdf (support ⊥ ⊤ a b obs) y' := Opda.Emp.cdf_step a b obs y y' h hno

/-- **right-continuous**, order form: every `y ≠ +∞` has a right neighbourhood `[y, y')` on which the cdf is constant. -/
theorem cdf_right_continuous (a b : E) (obs : List (E × α)) (y : E) (hy : y < ⊤) :
    ∃ y', y < y' ∧ ∀ z, y ≤ z → z < y' → cdf (support ⊥ ⊤ a b obs) z = cdf (support ⊥ ⊤ a b obs) y := by
  obtain ⟨y', hy', hno⟩ := exists_gap_right obs y hy
  exact ⟨y', hy', fun z hyz hzy' => (Opda.Emp.cdf_step a b obs y z hyz fun p hp hpz =>
    hno p hp ⟨hpz.1, hpz.2.trans_lt hzy'⟩).symm⟩

/-- **right-continuous**, real form (values in `EReal`): for every real `y` there is `δ > 0` with `cdf y' = cdf y` on `[y, y+δ)`. -/
theorem cdf_right_continuous_real (a b : EReal) (obs : List (EReal × α)) (y : ℝ) :
    ∃ δ : ℝ, 0 < δ ∧ ∀ y' : ℝ, y ≤ y' → y' < y + δ →
      cdf (support ⊥ ⊤ a b obs) (y' : EReal) = cdf (support ⊥ ⊤ a b obs) (y : EReal) := by
  obtain ⟨z, hz, hconst⟩ := cdf_right_continuous a b obs (y : EReal) (EReal.coe_lt_top y)
  induction z using EReal.rec with
  | bot => exact absurd hz (not_lt_bot)
  | coe r =>
    have hyr : y < r := EReal.coe_lt_coe_iff.mp hz
    refine ⟨r - y, by linarith, fun y' h1 h2 => hconst _ (EReal.coe_le_coe_iff.mpr h1) ?_⟩
    exact EReal.coe_lt_coe_iff.mpr (by linarith)
  | top =>
    exact ⟨1, one_pos, fun y' h1 _ => hconst _ (EReal.coe_le_coe_iff.mpr h1) (EReal.coe_lt_top y')⟩

/-- `F(y) = F(y⁻) + mass(y)` at the level of weights -/
theorem weight_le_eq_lt_add_eq (y : E) (obs : List (E × α)) :
    weightLE y obs = weightLT y obs + weightEq y obs := weightLE_eq_weightLT_add_weightEq y obs

/-- **pmf is the jump of the cdf**: `pmf(y) = cdf(y) − (weight strictly below y)/total`. -/
theorem pmf_is_jump (a b y : E) (obs : List (E × α)) :
    pmf (support ⊥ ⊤ a b obs) y = cdf (support ⊥ ⊤ a b obs) y - weightLT y obs / total obs := by
  rw [pmf_support, cdf_support, weightLE_eq_weightLT_add_weightEq, add_div, add_sub_cancel_left]

/-- … and the subtracted term is the cdf at any `z < y` with no observation strictly between: `pmf(y) = cdf(y) − cdf(z)`. -/
theorem pmf_is_jump_from_left (a b z y : E) (obs : List (E × α)) (hzy : z < y)
    (hno : ∀ p ∈ obs, ¬ (z < p.1 ∧ p.1 < y)) :
    pmf (support ⊥ ⊤ a b obs) y = cdf (support ⊥ ⊤ a b obs) y - cdf (support ⊥ ⊤ a b obs) z := by
  rw [pmf_is_jump, cdf_support a b z, weightLE_eq_weightLT_of_no_obs_between obs z y hzy hno]

/-- non-vacuity of `cdf_step` / `pmf_is_jump_from_left`: a gap of a tied sample. -/
example : (Ext.fin 1 ≤ Ext.fin 2)
    ∧ (∀ p ∈ ([(Ext.fin 1, (1:ℚ)/2), (Ext.fin 1, 1/4), (Ext.fin 3, 1/4)] : List (Ext × ℚ)),
        ¬ (Ext.fin 1 < p.1 ∧ p.1 ≤ Ext.fin 2))
    ∧ (∀ p ∈ ([(Ext.fin 1, (1:ℚ)/2), (Ext.fin 1, 1/4), (Ext.fin 3, 1/4)] : List (Ext × ℚ)),
        ¬ (Ext.fin 1 < p.1 ∧ p.1 < Ext.fin 3)) := by
  decide +kernel

/-- **unweighted**: `mean = Σ y_i / N`, `variance = Σ (y_i − mean)² / N` (`np.mean`, `np.var`). -/
theorem moments_unweighted (ys : List α) :
    moments ys none
      = (ys.sum / (ys.length : α),
         (ys.map fun y => (y - ys.sum / (ys.length : α)) * (y - ys.sum / (ys.length : α))).sum / (ys.length : α)) :=
  moments_none ys

/-- **weighted** (`ws ≥ 0`): `mean = Σ_i w_i y_i`, `variance = Σ_i w_i (y_i − mean)²` over *all* `i` — the `where=ws>0`
guard drops only zero terms. -/
theorem moments_weighted (ys ws : List α) (hw : ∀ w ∈ ws, 0 ≤ w) :
    moments ys (some ws)
      = (((ys.zip ws).map fun p => p.2 * p.1).sum,
         ((ys.zip ws).map fun p => p.2 * ((p.1 - ((ys.zip ws).map fun p => p.2 * p.1).sum)
            * (p.1 - ((ys.zip ws).map fun p => p.2 * p.1).sum))).sum) := moments_some ys ws hw

/-- the two branches of the model agree at the uniform weights `1/N` -/
theorem moments_branches_agree (ys : List α) (hne : ys ≠ []) :
    moments ys none = moments ys (some (List.replicate ys.length (1 / (ys.length : α)))) :=
  moments_none_eq_uniform ys

/-- **mean and variance are the moments of the step distribution** (weighted, `Σ w = 1`): `Σ_v pmf(v)·v` and
`Σ_v pmf(v)·(v − mean)²` over the merged atoms `v`, with `pmf` the constructor model's pmf (`ι` embeds the finite values
into the extended value type, e.g. `Ext.fin`). -/
theorem moments_weighted_are_step_moments (ι : α → E) (hι : Function.Injective ι) (a b : E) (ys ws : List α)
    (hw : ∀ w ∈ ws, 0 ≤ w) (htot : total (ys.zip ws) = 1) :
    moments ys (some ws)
      = (((atoms (ys.zip ws)).map fun p =>
            pmf (support ⊥ ⊤ a b ((ys.zip ws).map fun p => (ι p.1, p.2))) (ι p.1) * p.1).sum,
         ((atoms (ys.zip ws)).map fun p =>
            pmf (support ⊥ ⊤ a b ((ys.zip ws).map fun p => (ι p.1, p.2))) (ι p.1)
              * ((p.1 - (moments ys (some ws)).1) * (p.1 - (moments ys (some ws)).1))).sum) := by
  rw [show ((ys.zip ws).map fun p => (ι p.1, p.2)) = mapObs ι (ys.zip ws) from rfl,
    sum_atoms_pmf ι hι a b (fun y => y), sum_atoms_pmf ι hι a b (fun y => (y - _) * (y - _))]
  rw [moments_some ys ws hw]
  simp only [htot, div_one]

/-- the same for `ws = None` (each observation enters the constructor with weight 1, as in the driver). -/
theorem moments_unweighted_are_step_moments (ι : α → E) (hι : Function.Injective ι) (a b : E) (ys : List α) :
    moments ys none
      = (((atoms (ys.map fun y => (y, (1 : α)))).map fun p =>
            pmf (support ⊥ ⊤ a b (ys.map fun y => (ι y, (1 : α)))) (ι p.1) * p.1).sum,
         ((atoms (ys.map fun y => (y, (1 : α)))).map fun p =>
            pmf (support ⊥ ⊤ a b (ys.map fun y => (ι y, (1 : α)))) (ι p.1)
              * ((p.1 - (moments ys none).1) * (p.1 - (moments ys none).1))).sum) := by
  have hmap : (ys.map fun y => (ι y, (1 : α))) = mapObs ι (ys.map fun y => (y, (1 : α))) := by
    simp [mapObs]
  rw [hmap, sum_atoms_pmf ι hι a b (fun y => y),
    sum_atoms_pmf ι hι a b (fun y => (y - (moments ys none).1) * (y - (moments ys none).1)), total_unit]
  have e1 := sum_map_const_weight (fun w => w / (ys.length : α)) (fun y => y) 1 ys
  have e2 := sum_map_const_weight (fun w => w / (ys.length : α))
    (fun y => (y - (moments ys none).1) * (y - (moments ys none).1)) 1 ys
  rw [List.map_id'] at e1
  rw [e1, e2, moments_none]
  simp only [one_div_mul_eq_div]

/-- non-vacuity of the weighted-moment theorems: tied values, a zero weight, weights summing to 1; and `Ext.fin` is an
admissible embedding. -/
example : (∀ w ∈ ([(1:ℚ)/2, 1/4, 0, 1/4] : List ℚ), 0 ≤ w)
    ∧ total (([3, 3, 7, -1] : List ℚ).zip [(1:ℚ)/2, 1/4, 0, 1/4]) = 1
    ∧ Function.Injective Ext.fin := by
  exact ⟨by decide +kernel, by decide +kernel, fun p q h => by injection h⟩

theorem cdf_driver (a b y : Ext) (obs : List (Ext × Rat)) :
    cdf (support Ext.negInf Ext.posInf a b obs) y = weightLE y obs / total obs :=
  cdf_support (E := Ext) (α := Rat) a b y obs

theorem pmf_driver (a b y : Ext) (obs : List (Ext × Rat)) :
    pmf (support Ext.negInf Ext.posInf a b obs) y = weightEq y obs / total obs :=
  pmf_support (E := Ext) (α := Rat) a b y obs

theorem ppf_driver (a b y : Ext) (obs : List (Ext × Rat)) (hn : NonNeg obs) (htot : 0 < total obs)
    (q : Rat) (hq0 : 0 < q) (hq1 : q ≤ 1) (hay : a ≤ y) :
    ppf a (support Ext.negInf Ext.posInf a b obs) q ≤ y
      ↔ q ≤ cdf (support Ext.negInf Ext.posInf a b obs) y :=
  ppf_le_iff (E := Ext) (α := Rat) a b y obs hn htot q hq0 hq1 hay

theorem ppf_zero_driver (a b : Ext) (obs : List (Ext × Rat)) (hn : NonNeg obs) :
    ppf a (support Ext.negInf Ext.posInf a b obs) 0 = a :=
  Opda.Emp.ppf_zero (E := Ext) (α := Rat) a b obs hn

theorem ppf_one_driver (a b : Ext) (obs : List (Ext × Rat)) (hn : NonNeg obs) (htot : 0 < total obs) :
    cdf (support Ext.negInf Ext.posInf a b obs) (ppf a (support Ext.negInf Ext.posInf a b obs) 1) = 1
      ∧ ∀ y, a ≤ y → cdf (support Ext.negInf Ext.posInf a b obs) y = 1
          → ppf a (support Ext.negInf Ext.posInf a b obs) 1 ≤ y :=
  ppf_one_least_full_point (E := Ext) (α := Rat) a b obs hn htot

end Opda.Props.C03

#opda_audit Opda.Props.C03

import OpdaProofs.Audit
import OpdaProofs.BetaCheck
import OpdaProofs.Bisect
import OpdaProofs.Small
import OpdaProofs.BetaHdV
/-!
# C15 — beta interval and coverage helpers

Property theorems; short proofs stand under their statements here, the lemmas are in
`OpdaProofs/{BetaBinom,HdiBound,BetaCheck,BetaHdV,Bisect,Small}.lean`.

For the order-statistic parameters `(a,b) = (i, n+1−i)` the Beta(a,b) distribution function is the
binomial tail polynomial `G a b x = Σ_{j≥a} C(m,j) x^j (1−x)^{m−j}`, `m = a+b−1` — exact in ℚ
(`beta_cdf_*`).  The implementation's end points and coverages are therefore checked *exactly*:

* `et_check_sound`, `hdi_mass_check_sound` — what an accepted mass/tail check proves;
* `hdi_certificate_sound`, `hdi_check_sound` — an accepted optimality certificate proves that **no
  interval `[u,v] ⊆ [0,1]` of at least the same mass is shorter by more than the slack** (every `u,v`:
  the quantifier is closed by `level_bound` + unimodality, nothing is sampled); `hdi_shortest` is the
  classical exact statement (equal end densities ⇒ shortest);
* `equal_tailed`, `et_nested` — mass, equal tails, `x ∈ I(c) ↔ cov(x) ≤ c`, `cov(end point) = c`, nestedness,
  for any strictly increasing distribution function with an inverse (scipy's `beta.ppf` is *checked*
  through the exact polynomial, not trusted);
* `bisection_bracket`, `bisection_width` — the two bisection loops keep a nested bracket of width
  `≤ (hi−lo)/2^k` whatever the floating-point density comparisons decide.

`hd_coverage_bracket_left/right`: the exact bracket `beta.hdcov` returns contains `G(y*) − G(x)` for the end
`y*` of the level set `{f ≥ f x}`, which by `hd_level_set` is the coverage of the smallest highest-density
interval containing `x` — the Spec value `beta_highest_density_coverage` is compared with.

**The highest-density coverage function itself** (`OpdaProofs/BetaHdV.lean`), for integers `a, b ≥ 1` not both `1`:
`hdcov a b x` is *defined* as the Beta(a,b)-mass of the level set `{f ≥ f x}` of the density `f = s^{a−1}(1−s)^{b−1}` —
`[x, partnerR x]` left of the mode `m`, `[partnerL x, x]` right of it, the far end being the sup/inf of the level set on the
other side of the mode (`partner_spec`, `hd_level_set_interval`, `hdcov_spec`); the density is strictly unimodal
(`density_strictly_unimodal`); for `a, b ≥ 2` the far end is the unique point across the mode with equal density
(`hd_partner_equal_density`) and the level set is the shortest interval of its mass
(`hd_coverage_is_mass_of_shortest_interval_left/right`: `hdcov` *is* the coverage of the smallest highest-density interval
containing `x`).  **V shape** (`hd_coverage_v_shaped`): `hdcov a b` is strictly decreasing on `[0,m]`, strictly increasing on
`[m,1]`, `0` at `m`, with values in `[0,1]`; `hdcov 0 = 1` (`a ≥ 2`), `hdcov 1 = 1` (`b ≥ 2`) (`hd_coverage_ends`); for `a = 1`
it is `G`, for `b = 1` it is `1 − G` (`hd_coverage_monotone_cases`); it is measurable (`hd_coverage_measurable`).  The
hypotheses about `y*` in `hd_coverage_bracket_left/right` are discharged: the driver's exact bracket contains `hdcov a b x`
(`hd_coverage_bracket_contains_hdcov`).  Consumed by C01 (`ld_highest_density_cdf_continuous`).  Not proved: continuity of
`hdcov` in `x` (not needed).

Compared only (correspondence, at the property's tolerances): the *values* the library returns (they come
from scipy's `beta.ppf/cdf` and float bisections) against those exact quantities, the inverse relation to
`2e-6`, monotonicity on grids, broadcasting.
-/
namespace Opda.Props.C15
open Opda.BetaBinom Opda.CP Opda.BetaCheck Opda.Hdi

/-- derivative of the tail in `x`: the Beta(k+1, n−k) density `n·C(n−1,k)·x^k (1−x)^{n−1−k}` -/
theorem beta_cdf_deriv (n k : ℕ) (x : ℝ) :
    HasDerivAt (fun p : ℝ => tail n (k+1) p)
      ((n : ℝ) * (Nat.choose (n - 1) k : ℝ) * x ^ k * (1 - x) ^ (n - 1 - k)) x := by
  rw [← Opda.BetaCdf.dtail_succ_eq]; exact Opda.BetaCdf.hasDerivAt_tail n (k+1) x

/-- … hence the tail is the integral of that density (fundamental theorem of calculus) … -/
theorem beta_cdf_eq_integral (a b : ℕ) (ha : 0 < a) (hb : 0 < b) (u v : ℝ) :
    G a b v - G a b u = ∫ s in u..v, (betaNorm a b : ℝ) * (s ^ (a - 1) * (1 - s) ^ (b - 1)) :=
  mass_eq_integral a b ha hb u v

/-- … which integrates to one over `[0,1]`: `betaNorm a b = (a+b−1)·C(a+b−2,a−1)` is `1/B(a,b)`. -/
theorem beta_density_normalised (a b : ℕ) (ha : 0 < a) (hb : 0 < b) :
    ∫ s in (0:ℝ)..1, (betaNorm a b : ℝ) * (s ^ (a - 1) * (1 - s) ^ (b - 1)) = 1 :=
  (mass_eq_integral a b ha hb 0 1).symm.trans (by rw [G_one a b hb, G_zero a b ha, sub_zero])

/-- the exact-ℚ term the driver evaluates is that distribution function -/
theorem beta_cdf_model_exact (a b : ℕ) (x : ℚ) (h0 : 0 ≤ x) (h1 : x ≤ 1) :
    ((betaCdf a b x : ℚ) : ℝ) = G a b (x : ℝ) := betaCdf_cast a b x h0 h1

/-- `G` is non-decreasing on `[0,1]`, `0` at `0` and `1` at `1` -/
theorem beta_cdf_mono (a b : ℕ) (s s' : ℝ) (h0 : 0 ≤ s) (hss : s ≤ s') (h1 : s' ≤ 1) :
    G a b s ≤ G a b s' := G_mono a b s s' h0 hss h1
theorem beta_cdf_ends (a b : ℕ) (ha : 0 < a) (hb : 0 < b) : G a b 0 = 0 ∧ G a b 1 = 1 :=
  ⟨G_zero a b ha, G_one a b hb⟩

/-- the density `s^α (1−s)^β` increases up to the mode `α/(α+β)` and decreases after it -/
theorem density_unimodal (α β : ℕ) (hpos : 0 < α + β) :
    MonotoneOn (g α β) (Set.Icc 0 ((α : ℝ) / ((α : ℝ) + β)))
      ∧ AntitoneOn (g α β) (Set.Icc ((α : ℝ) / ((α : ℝ) + β)) 1) := ⟨g_mono α β hpos, g_anti α β hpos⟩

/-- **C15-T1**: for a strictly increasing `G` with inverse `Ginv` on `[0,1]`, the interval
`[Ginv((1−c)/2), Ginv((1+c)/2)]` has mass `c`, equal tails, `x ≤ y`, contains `t` iff
`2|½ − G t| ≤ c`, and the coverage function takes the value `c` at both end points. -/
theorem equal_tailed (G Ginv : ℝ → ℝ) (hmono : StrictMono G)
    (hinv : ∀ p, 0 ≤ p → p ≤ 1 → G (Ginv p) = p) (c : ℝ) (hc0 : 0 ≤ c) (hc1 : c ≤ 1) :
    let x := Ginv ((1 - c) / 2)
    let y := Ginv ((1 + c) / 2)
    G y - G x = c ∧ G x = 1 - G y ∧ x ≤ y
      ∧ (∀ t, (x ≤ t ∧ t ≤ y) ↔ 2 * |1 / 2 - G t| ≤ c)
      ∧ 2 * |1 / 2 - G x| = c ∧ 2 * |1 / 2 - G y| = c :=
  Opda.Small.equal_tailed G Ginv hmono hinv c hc0 hc1

/-- equal-tailed intervals are nested in the coverage -/
theorem et_nested (G Ginv : ℝ → ℝ) (hmono : StrictMono G)
    (hinv : ∀ p, 0 ≤ p → p ≤ 1 → G (Ginv p) = p) (c c' : ℝ) (hc0 : 0 ≤ c) (hcc : c ≤ c') (hc1 : c' ≤ 1)
    (t : ℝ) (ht : Ginv ((1 - c) / 2) ≤ t ∧ t ≤ Ginv ((1 + c) / 2)) :
    Ginv ((1 - c') / 2) ≤ t ∧ t ≤ Ginv ((1 + c') / 2) :=
  ((Opda.Small.equal_tailed G Ginv hmono hinv c' (hc0.trans hcc) hc1).2.2.2.1 t).mpr
    ((((Opda.Small.equal_tailed G Ginv hmono hinv c hc0 (hcc.trans hc1)).2.2.2.1 t).mp ht).trans hcc)

/-- what an accepted `beta.check_et` proves about the returned end points -/
theorem et_check_sound (a b : ℕ) (c x y tol : ℚ) (h : etCheck a b c x y tol = true) :
    0 ≤ (x : ℝ) ∧ (x : ℝ) ≤ y ∧ (y : ℝ) ≤ 1
      ∧ |G a b y - G a b x - c| ≤ tol ∧ |G a b x - (1 - G a b y)| ≤ tol := etCheck_sound a b c x y tol h

/-- what the mass part of an accepted `beta.check_hdi` proves (the optimality part is `hdi_check_sound`) -/
theorem hdi_mass_check_sound (a b : ℕ) (c x y tol otol : ℚ) (h : hdiMassCheck a b c x y tol otol = true) :
    0 ≤ (x : ℝ) ∧ (x : ℝ) ≤ 1 ∧ 0 ≤ (y : ℝ) ∧ (y : ℝ) ≤ 1 ∧ (x : ℝ) ≤ y + otol
      ∧ |G a b y - G a b x - c| ≤ tol := by
  simp only [hdiMassCheck, Bool.and_eq_true, decide_eq_true_eq] at h
  obtain ⟨⟨⟨⟨⟨hx0, hx1⟩, hy0⟩, hy1⟩, hxy⟩, hm⟩ := h
  have hm' := (Rat.cast_le (K := ℝ)).2 hm
  push_cast [absQ_cast, betaCdf_cast a b y hy0 hy1, betaCdf_cast a b x hx0 hx1] at hm'
  exact ⟨by exact_mod_cast hx0, by exact_mod_cast hx1, by exact_mod_cast hy0, by exact_mod_cast hy1,
    by exact_mod_cast hxy, hm'⟩

/-- **C15-T2, robust form** — soundness of the optimality certificate: if `hdiCertOK` accepts
`(x₁,x₂,y₂,y₁,t)` for the returned `[x,y]`, then **every** interval `[u,v] ⊆ [0,1]` whose Beta(a,b) mass is
at least that of `[x,y]` has length at least `(y − x) − slack`. -/
theorem hdi_certificate_sound (a b : ℕ) (x y x1 x2 y2 y1 t slack : ℚ)
    (h : hdiCertOK a b x y x1 x2 y2 y1 t slack = true)
    (u v : ℝ) (hu : 0 ≤ u) (huv : u ≤ v) (hv : v ≤ 1)
    (hmass : G a b (y : ℝ) - G a b (x : ℝ) ≤ G a b v - G a b u) :
    ((y : ℝ) - (x : ℝ)) - (slack : ℝ) ≤ v - u :=
  hdiCertOK_sound a b x y x1 x2 y2 y1 t slack h u v hu huv hv hmass

/-- the same for the checker with its built-in search (`beta.check_hdi`) -/
theorem hdi_check_sound (a b : ℕ) (x y slack w0 : ℚ) (h : hdiCheck a b x y slack w0 = true)
    (u v : ℝ) (hu : 0 ≤ u) (huv : u ≤ v) (hv : v ≤ 1)
    (hmass : G a b (y : ℝ) - G a b (x : ℝ) ≤ G a b v - G a b u) :
    ((y : ℝ) - (x : ℝ)) - (slack : ℝ) ≤ v - u := hdiCheck_sound a b x y slack w0 h u v hu huv hv hmass

/-- a counter-example reported by the check (`hdiWitness`, used only to produce replays) really is an interval of at
least the same mass that is shorter by more than the slack -/
theorem hdi_witness_sound (a b : ℕ) (x y u v slack : ℚ) (hx : 0 ≤ x ∧ x ≤ 1) (hy : 0 ≤ y ∧ y ≤ 1)
    (h : hdiWitness a b x y u v slack = true) :
    0 ≤ (u : ℝ) ∧ (u : ℝ) ≤ v ∧ (v : ℝ) ≤ 1 ∧ G a b y - G a b x ≤ G a b v - G a b u
      ∧ (v : ℝ) - u < ((y : ℝ) - x) - slack := by
  simp only [hdiWitness, Bool.and_eq_true, decide_eq_true_eq] at h
  obtain ⟨⟨⟨⟨h0, huv⟩, h1⟩, hm⟩, hl⟩ := h
  have hm' := (Rat.cast_le (K := ℝ)).2 hm
  push_cast [betaCdf_cast a b y hy.1 hy.2, betaCdf_cast a b x hx.1 hx.2,
    betaCdf_cast a b v (h0.trans huv) h1, betaCdf_cast a b u h0 (huv.trans h1)] at hm'
  exact ⟨by exact_mod_cast h0, by exact_mod_cast huv, by exact_mod_cast h1, hm', by exact_mod_cast hl⟩

/-- **C15-T2, classical form**: unimodal density, `m ∈ [x,y]`, equal end densities ⇒ no interval of at
least the same mass is shorter. -/
theorem hdi_shortest (f : ℝ → ℝ) (hf : Continuous f) (m x y : ℝ) (h0 : 0 ≤ x) (hxm : x ≤ m) (hmy : m ≤ y)
    (h1 : y ≤ 1) (hup : MonotoneOn f (Set.Icc 0 m)) (hdown : AntitoneOn f (Set.Icc m 1))
    (heq : f x = f y) (hpos : 0 < f x)
    (u v : ℝ) (hu : 0 ≤ u) (huv : u ≤ v) (hv : v ≤ 1)
    (hmass : ∫ s in x..y, f s ≤ ∫ s in u..v, f s) : y - x ≤ v - u :=
  Opda.UtilsExtra.hdi_shortest f hf m x y h0 hxm hmy h1 hup hdown heq hpos u v hu huv hv hmass

/-- level sets: with `f y = f x` across the mode, the density is `≥ f x` on `[x,y]` and `≤ f x` outside, so
`[x,y]` is the smallest highest-density interval containing `x` and its coverage is `G y − G x` (the
quantity `beta.hdcov` brackets exactly and `beta_highest_density_coverage` is compared with) -/
theorem hd_level_set (α β : ℕ) (hpos : 0 < α + β) (x y : ℝ) (h0 : 0 ≤ x)
    (hxm : x ≤ (α : ℝ) / ((α : ℝ) + β)) (hmy : (α : ℝ) / ((α : ℝ) + β) ≤ y) (h1 : y ≤ 1)
    (heq : g α β x = g α β y) :
    (∀ s, x ≤ s → s ≤ y → g α β x ≤ g α β s)
      ∧ (∀ s, 0 ≤ s → s ≤ 1 → (s ≤ x ∨ y ≤ s) → g α β s ≤ g α β x) :=
  ⟨fun _ h1' h2' => ge_between (g_mono α β hpos) (g_anti α β hpos) h0 hxm hmy h1 le_rfl heq.le ⟨h1', h2'⟩,
    fun _ hs0 hs1 h => h.elim (fun h => g_mono α β hpos ⟨hs0, h.trans hxm⟩ ⟨h0, hxm⟩ h)
      (fun h => heq ▸ g_anti α β hpos ⟨hmy, h1⟩ ⟨hmy.trans h, hs1⟩ h)⟩

/-- soundness of `beta.hdcov` (the Spec value `beta_highest_density_coverage` is compared with), `x` left of
the mode: the exact bracket contains `G y* − G x` for the right end `y*` of the level set `{f ≥ f x}` -/
theorem hd_coverage_bracket_left (a b : ℕ) (ha : 0 < a) (hb : 0 < b) (hab : 2 < a + b) (x : ℚ) (steps : ℕ)
    (hx0 : 0 ≤ x) (hxm : x < modeQ a b) (ystar : ℝ)
    (hy0 : ((modeQ a b : ℚ) : ℝ) ≤ ystar) (hy1 : ystar ≤ 1)
    (hin : ∀ s : ℝ, ((modeQ a b : ℚ) : ℝ) ≤ s → s ≤ ystar → g (a - 1) (b - 1) (x : ℝ) ≤ g (a - 1) (b - 1) s)
    (hout : ∀ s : ℝ, ystar < s → s ≤ 1 → g (a - 1) (b - 1) s < g (a - 1) (b - 1) (x : ℝ)) :
    (((hdCoverageBracket a b x steps).1 : ℚ) : ℝ) ≤ G a b ystar - G a b (x : ℝ)
      ∧ G a b ystar - G a b (x : ℝ) ≤ (((hdCoverageBracket a b x steps).2 : ℚ) : ℝ) :=
  hdCoverageBracket_sound_left a b x steps hx0 hxm ystar hy0 hy1 hin hout

/-- … and right of the mode -/
theorem hd_coverage_bracket_right (a b : ℕ) (ha : 0 < a) (hb : 0 < b) (hab : 2 < a + b) (x : ℚ) (steps : ℕ)
    (hx1 : x ≤ 1) (hmx : modeQ a b < x) (ystar : ℝ)
    (hy0 : 0 ≤ ystar) (hy1 : ystar ≤ ((modeQ a b : ℚ) : ℝ))
    (hin : ∀ s : ℝ, ystar ≤ s → s ≤ ((modeQ a b : ℚ) : ℝ) → g (a - 1) (b - 1) (x : ℝ) ≤ g (a - 1) (b - 1) s)
    (hout : ∀ s : ℝ, 0 ≤ s → s < ystar → g (a - 1) (b - 1) s < g (a - 1) (b - 1) (x : ℝ)) :
    (((hdCoverageBracket a b x steps).1 : ℚ) : ℝ) ≤ G a b (x : ℝ) - G a b ystar
      ∧ G a b (x : ℝ) - G a b ystar ≤ (((hdCoverageBracket a b x steps).2 : ℚ) : ℝ) :=
  hdCoverageBracket_sound_right a b x steps hx1 hmx ystar hy0 hy1 hin hout

/-- the general weak-duality bound behind `hdi_certificate_sound` and `hdi_shortest` -/
theorem hdi_level_bound {f : ℝ → ℝ} (hf : Continuous f) (T C1 C2 x1 x2 y2 y1 : ℝ)
    (h0 : 0 ≤ x1) (h12 : x1 ≤ x2) (h23 : x2 ≤ y2) (h34 : y2 ≤ y1) (h41 : y1 ≤ 1)
    (hC1 : C1 ≤ T) (hC2 : C2 ≤ T)
    (hA : 0 < x1 → ∀ s ∈ Set.Icc 0 x1, f s ≤ T) (hB : y1 < 1 → ∀ s ∈ Set.Icc y1 1, f s ≤ T)
    (hC : ∀ s ∈ Set.Icc x1 x2, C1 ≤ f s) (hD : ∀ s ∈ Set.Icc x2 y2, T ≤ f s)
    (hE : ∀ s ∈ Set.Icc y2 y1, C2 ≤ f s)
    (u v : ℝ) (hu : 0 ≤ u) (huv : u ≤ v) (hv : v ≤ 1) :
    (∫ s in u..v, f s) - T * (v - u)
      ≤ (∫ s in x1..y1, f s) - C1 * (x2 - x1) - T * (y2 - x2) - C2 * (y1 - y2) :=
  level_bound hf T C1 C2 x1 x2 y2 y1 h12 h23 h34 hC1 hC2 hA hB hC hD hE u v hu huv hv

/-- non-vacuity: the exact highest-density interval of Beta(2,2) of mass `11/16` is `[1/4, 3/4]`
(equal end densities); the certificate with `t = f(1/4)` is accepted with zero slack. -/
example : hdiCertOK 2 2 (1/4) (3/4) (1/4) (1/4) (3/4) (3/4) (3/16) 0 = true := by decide +kernel
example : etCheck 2 2 (11/16) (1/4) (3/4) 0 = true := by decide +kernel

section hdcov
open Opda.BetaHdV

/-- the mode of the density `s^α (1−s)^β` -/
theorem mode_spec (α β : ℕ) : mode α β = (α : ℝ) / ((α : ℝ) + β) := rfl

/-- the density is **strictly** increasing up to the mode and **strictly** decreasing after it (for `α = 0` / `β = 0` the
mode is the end point `0` / `1` and the density is strictly monotone on `[0,1]`) -/
theorem density_strictly_unimodal (α β : ℕ) (hpos : 0 < α + β) :
    StrictMonoOn (g α β) (Set.Icc 0 (mode α β)) ∧ StrictAntiOn (g α β) (Set.Icc (mode α β) 1) :=
  ⟨g_strictMonoOn α β hpos, g_strictAntiOn α β hpos⟩

/-- the far ends of the level set `{f ≥ f x}`: `partnerR x = sup {t ∈ [m,1] | f x ≤ f t}`,
`partnerL x = inf {t ∈ [0,m] | f x ≤ f t}` -/
theorem partner_spec (α β : ℕ) (x : ℝ) :
    partnerR α β x = sSup {t | t ∈ Set.Icc (mode α β) 1 ∧ g α β x ≤ g α β t}
      ∧ partnerL α β x = sInf {t | t ∈ Set.Icc 0 (mode α β) ∧ g α β x ≤ g α β t} := ⟨rfl, rfl⟩

/-- **the level set of the density through `x`**: for `x ∈ [0,m]`, `partnerR x ∈ [m,1]` and inside `[0,1]`
`{s | f x ≤ f s} = [x, partnerR x]`; for `x ∈ [m,1]`, `partnerL x ∈ [0,m]` and `{s | f x ≤ f s} = [partnerL x, x]` -/
theorem hd_level_set_interval (α β : ℕ) (hpos : 0 < α + β) :
    (∀ x ∈ Set.Icc 0 (mode α β), partnerR α β x ∈ Set.Icc (mode α β) 1
        ∧ ∀ s ∈ Set.Icc (0:ℝ) 1, g α β x ≤ g α β s ↔ x ≤ s ∧ s ≤ partnerR α β x)
      ∧ (∀ x ∈ Set.Icc (mode α β) 1, partnerL α β x ∈ Set.Icc 0 (mode α β)
        ∧ ∀ s ∈ Set.Icc (0:ℝ) 1, g α β x ≤ g α β s ↔ partnerL α β x ≤ s ∧ s ≤ x) :=
  ⟨fun _ hx => ⟨(partnerR_mem α β hpos hx).1, fun _ hs => levelSet_left α β hpos hx hs⟩,
   fun _ hx => ⟨(partnerL_mem α β hpos hx).1, fun _ hs => levelSet_right α β hpos hx hs⟩⟩

/-- **equal end densities** (`a, b ≥ 2`, i.e. `α, β ≥ 1`): the far end of the level set is *the* point across the mode with
the density of `x` — the hypothesis `heq` of `hd_level_set` and `hdi_shortest` -/
theorem hd_partner_equal_density (α β : ℕ) (hα : 0 < α) (hβ : 0 < β) :
    (∀ x ∈ Set.Icc 0 (mode α β), g α β (partnerR α β x) = g α β x
        ∧ ∀ y ∈ Set.Icc (mode α β) 1, g α β y = g α β x → y = partnerR α β x)
      ∧ (∀ x ∈ Set.Icc (mode α β) 1, g α β (partnerL α β x) = g α β x
        ∧ ∀ y ∈ Set.Icc 0 (mode α β), g α β y = g α β x → y = partnerL α β x) :=
  ⟨fun _ hx => ⟨g_partnerR α β hβ hx, fun _ hy h => partnerR_unique α β hβ hx hy h⟩,
   fun _ hx => ⟨g_partnerL α β hα hx, fun _ hy h => partnerL_unique α β hα hx hy h⟩⟩

/-- **definition of `hdcov`**: on `[0,1]` it is the Beta(a,b)-mass of the level set `{f ≥ f x}`, `f = g (a−1) (b−1)`:
`G (partnerR x) − G x` for `x ≤ m`, `G x − G (partnerL x)` for `x ≥ m` (both `0` at `m`); outside `[0,1]` it is continued
constantly (`hdcov x = hdcov (max 0 (min x 1))`) -/
theorem hdcov_spec (a b : ℕ) (ha : 0 < a) (hb : 0 < b) (hab : 2 < a + b) (x : ℝ) :
    (x ∈ Set.Icc 0 (mode (a - 1) (b - 1)) → hdcov a b x = G a b (partnerR (a - 1) (b - 1) x) - G a b x)
      ∧ (x ∈ Set.Icc (mode (a - 1) (b - 1)) 1 → hdcov a b x = G a b x - G a b (partnerL (a - 1) (b - 1) x))
      ∧ hdcov a b x = hdcov a b (max 0 (min x 1)) :=
  ⟨fun hx => (hdcov_of_mem a b ⟨hx.1, hx.2.trans (mode_le_one _ _)⟩).trans (hdcovRaw_left a b hx.2),
   fun hx => (hdcov_of_mem a b ⟨(mode_nonneg _ _).trans hx.1, hx.2⟩).trans (hdcovRaw_right' a b hab ha hb hx.1),
   (hdcov_of_mem a b (clamp01_mem x)).symm⟩

/-- **`hdcov` is the coverage of the smallest highest-density interval containing `x`** (`a, b ≥ 2`, `0 < x ≤ m`): the
level set `[x, partnerR x]` has mass `hdcov a b x`, and every interval `[u,v] ⊆ [0,1]` of at least that mass is at least as
long -/
theorem hd_coverage_is_mass_of_shortest_interval_left (a b : ℕ) (ha : 2 ≤ a) (hb : 2 ≤ b) (x : ℝ) (hx0 : 0 < x)
    (hxm : x ≤ mode (a - 1) (b - 1)) (u v : ℝ) (hu : 0 ≤ u) (huv : u ≤ v) (hv : v ≤ 1)
    (hmass : hdcov a b x ≤ G a b v - G a b u) : partnerR (a - 1) (b - 1) x - x ≤ v - u :=
  hd_interval_shortest_left a b ha hb hx0 hxm u v hu huv hv
    ((hdcov_of_mem a b ⟨hx0.le, hxm.trans (mode_le_one _ _)⟩).symm.trans_le hmass)

/-- … and for `m ≤ x < 1` -/
theorem hd_coverage_is_mass_of_shortest_interval_right (a b : ℕ) (ha : 2 ≤ a) (hb : 2 ≤ b) (x : ℝ)
    (hmx : mode (a - 1) (b - 1) ≤ x) (hx1 : x < 1) (u v : ℝ) (hu : 0 ≤ u) (huv : u ≤ v) (hv : v ≤ 1)
    (hmass : hdcov a b x ≤ G a b v - G a b u) : x - partnerL (a - 1) (b - 1) x ≤ v - u :=
  hd_interval_shortest_right a b ha hb hmx hx1 u v hu huv hv
    ((hdcov_of_mem a b ⟨(mode_nonneg _ _).trans hmx, hx1.le⟩).symm.trans_le hmass)

/-- **C15: the highest-density coverage function is V-shaped about the mode** — for integers `a, b ≥ 1`, not both `1`:
strictly decreasing on `[0,m]`, strictly increasing on `[m,1]`, `0` at the mode, values in `[0,1]` -/
theorem hd_coverage_v_shaped (a b : ℕ) (ha : 0 < a) (hb : 0 < b) (hab : 2 < a + b) :
    StrictAntiOn (hdcov a b) (Set.Icc 0 (mode (a - 1) (b - 1)))
      ∧ StrictMonoOn (hdcov a b) (Set.Icc (mode (a - 1) (b - 1)) 1)
      ∧ hdcov a b (mode (a - 1) (b - 1)) = 0
      ∧ ∀ x, 0 ≤ hdcov a b x ∧ hdcov a b x ≤ 1 :=
  ⟨hdcov_strictAntiOn a b hab ha hb, hdcov_strictMonoOn a b hab ha hb,
   (hdcov_of_mem a b ⟨mode_nonneg _ _, mode_le_one _ _⟩).trans (hdcovRaw_mode a b hab ha hb),
   fun x => hdcovRaw_mem_unit a b hab ha hb (clamp01_mem x)⟩

/-- end values: `hdcov 0 = 1` for `a ≥ 2`, `hdcov 1 = 1` for `b ≥ 2` (the density vanishes there: the level set is `[0,1]`) -/
theorem hd_coverage_ends (a b : ℕ) :
    (2 ≤ a → 0 < b → hdcov a b 0 = 1) ∧ (0 < a → 2 ≤ b → hdcov a b 1 = 1) :=
  ⟨fun ha hb => (hdcov_of_mem a b ⟨le_rfl, zero_le_one⟩).trans (hdcovRaw_zero a b ha hb),
   fun ha hb => (hdcov_of_mem a b ⟨zero_le_one, le_rfl⟩).trans (hdcovRaw_one a b ha hb)⟩

/-- the monotone cases (first and last order statistic): for `a = 1` the density decreases, the level set of `x` is `[0,x]`
and `hdcov = G`; for `b = 1` the density increases, the level set is `[x,1]` and `hdcov = 1 − G` -/
theorem hd_coverage_monotone_cases (k : ℕ) (hk : 2 ≤ k) (x : ℝ) (hx : x ∈ Set.Icc (0:ℝ) 1) :
    hdcov 1 k x = G 1 k x ∧ hdcov k 1 x = 1 - G k 1 x :=
  ⟨(hdcov_of_mem 1 k hx).trans (hdcovRaw_a_one k hk hx), (hdcov_of_mem k 1 hx).trans (hdcovRaw_b_one k hk hx)⟩

/-- `hdcov a b` is a measurable function on `ℝ` -/
theorem hd_coverage_measurable (a b : ℕ) (ha : 0 < a) (hb : 0 < b) (hab : 2 < a + b) : Measurable (hdcov a b) :=
  measurable_hdcov a b hab ha hb

/-- **`beta.hdcov` brackets `hdcov`** — `hd_coverage_bracket_left/right` with their hypotheses about the level-set end
discharged (`y* = partnerR x` resp. `partnerL x`): for every rational `x ∈ [0,1]` off the mode and every number of bisection
steps, the exact rational bracket the driver returns contains `hdcov a b x` -/
theorem hd_coverage_bracket_contains_hdcov (a b : ℕ) (ha : 0 < a) (hb : 0 < b) (hab : 2 < a + b) (x : ℚ) (steps : ℕ)
    (hx0 : 0 ≤ x) (hx1 : x ≤ 1) (hne : x ≠ modeQ a b) :
    (((hdCoverageBracket a b x steps).1 : ℚ) : ℝ) ≤ hdcov a b (x : ℝ)
      ∧ hdcov a b (x : ℝ) ≤ (((hdCoverageBracket a b x steps).2 : ℚ) : ℝ) :=
  (lt_or_gt_of_ne hne).elim (fun h => hdCoverageBracket_hdcov_left a b ha hb hab x steps hx0 h)
    (fun h => hdCoverageBracket_hdcov_right a b ha hb hab x steps hx1 h)

/-- non-vacuity / sanity: Beta(2,2), `x = 1/4`: the partner is `3/4` and `hdcov 2 2 (1/4) = G(3/4) − G(1/4)` -/
example : hdcov 2 2 (1/4) = G 2 2 (3/4) - G 2 2 (1/4) := by
  have hm : mode (2 - 1) (2 - 1) = 1 / 2 := by unfold mode; norm_num
  have hx : (1/4 : ℝ) ∈ Set.Icc 0 (mode (2 - 1) (2 - 1)) := by rw [hm]; constructor <;> norm_num
  have hy : (3/4 : ℝ) ∈ Set.Icc (mode (2 - 1) (2 - 1)) 1 := by rw [hm]; constructor <;> norm_num
  rw [(hdcov_spec 2 2 (by norm_num) (by norm_num) (by norm_num) (1/4)).1 hx,
    ← partnerR_unique (2 - 1) (2 - 1) (by norm_num) hx hy (by unfold g; norm_num)]

end hdcov

/-- **C15-T3**: `k` steps of `mid=(lo+hi)/2; lo=where(moveLo,mid,lo); hi=where(moveHi,mid,hi)` with
`moveLo ∨ moveHi` keep a nested bracket whose width is at most `(hi − lo)/2^k`, for arbitrary decisions. -/
theorem bisection_bracket {α : Type} [Field α] [LinearOrder α] [IsStrictOrderedRing α]
    (moveLo moveHi : α → Bool) (hcover : ∀ m, moveLo m = true ∨ moveHi m = true)
    (k : Nat) (lo hi : α) (h : lo ≤ hi) :
    lo ≤ (Opda.BetaBisect.run moveLo moveHi k (lo, hi)).1
      ∧ (Opda.BetaBisect.run moveLo moveHi k (lo, hi)).1 ≤ (Opda.BetaBisect.run moveLo moveHi k (lo, hi)).2
      ∧ (Opda.BetaBisect.run moveLo moveHi k (lo, hi)).2 ≤ hi
      ∧ ((Opda.BetaBisect.run moveLo moveHi k (lo, hi)).2 - (Opda.BetaBisect.run moveLo moveHi k (lo, hi)).1) * 2 ^ k
          ≤ hi - lo := Opda.BetaBisect.run_bracket moveLo moveHi hcover k lo hi h

/-- with `n_iter ≥ log₂(width/atol)` steps the bracket is narrower than `atol` -/
theorem bisection_width {α : Type} [Field α] [LinearOrder α] [IsStrictOrderedRing α]
    (moveLo moveHi : α → Bool) (hcover : ∀ m, moveLo m = true ∨ moveHi m = true)
    (k : Nat) (lo hi atol : α) (h : lo ≤ hi) (hk : hi - lo ≤ atol * 2 ^ k) :
    (Opda.BetaBisect.run moveLo moveHi k (lo, hi)).2 - (Opda.BetaBisect.run moveLo moveHi k (lo, hi)).1 ≤ atol :=
  le_of_mul_le_mul_right ((Opda.BetaBisect.run_bracket moveLo moveHi hcover k lo hi h).2.2.2.trans hk)
    (pow_pos two_pos k)

/-- the generic one-sided bisection of `OpdaProofs/Bisect.lean` (C07-T2 reused): the bracket stays nested -/
theorem bisection_inside {α : Type} [LinearOrder α] (F : α → α) (mid : α → α → α) (hm : Bisect.MidOK mid)
    (q : α) (k : Nat) (lo hi : α) (h : lo ≤ hi) :
    lo ≤ (Bisect.run F mid q k (lo, hi)).1 ∧ (Bisect.run F mid q k (lo, hi)).1 ≤ (Bisect.run F mid q k (lo, hi)).2
      ∧ (Bisect.run F mid q k (lo, hi)).2 ≤ hi := Bisect.run_inside F mid hm q k lo hi h

end Opda.Props.C15

#opda_audit Opda.Props.C15

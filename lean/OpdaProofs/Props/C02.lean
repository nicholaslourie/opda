import OpdaProofs.Audit
import OpdaProofs.BandMore
import OpdaProofs.BandCor
import OpdaProofs.LdWiden
import OpdaProofs.Small
import OpdaProofs.ExtInst
/-!
# C02 — bands bracket the estimate, depend only on ranks, invert to tuning-curve bands

The model of `confidence_bands` is `Opda.Band.bandObs` (the code's `diff(levels, prepend 0, append 1)` placed on the
sorted extended sample `[a] ++ ys ++ [b]`) fed to the C03 constructor model `Opda.Emp.support`.  The level tables are
parameters: the correspondence check computes them from the documented construction (dkw/ks: `clip(i/n ∓ ε)`; ld: the
simulated critical value pushed through the public beta-interval helpers) and compares the code's bands with the model.

"Raising the confidence (same seed) never narrows the band" is a theorem for three of the four methods: dkw
(`dkw_band_widens_with_confidence`, `dkw_band_widens_up_to_confidence_one`), ld_equal_tailed
(`ld_equal_tailed_band_widens_with_confidence`) and ld_highest_density (`ld_highest_density_band_widens_with_confidence`,
`n ≥ 2`).  For ld the same seed gives the same simulated statistics `ts`, and the clause is the chain
`np_quantile_monotone_in_level` (numpy's linear rule, modelled by `Opda.LdWiden.npQuantile`) →
`equal_tailed_nested_in_coverage` with `beta_quantile_spec_and_monotone` / `highest_density_nested_in_coverage` →
`band_widens_of_levelwise_widening`.  What stays compared for ld: that the code's tables are the model tables
`ldLo`/`ldHi` at `np.quantile(ts, confidence)` (numpy's rule, scipy's `beta.ppf`, the code's highest-density root search
against `hdLoEnd`/`hdHiEnd`, for which `highest_density_ends_are_level_set` gives the characterisation).  ks: compared.

Rests on: `BandMore` (`band_cdf`, `levelAt`, `extCount`), `BandCor` (the level tables), `LdWiden` (numpy's quantile rule, the
ld tables, nested intervals), `BetaHdV` (`hdcov`, `partnerR`), `Small` (`quantile_antitone`).
-/
namespace Opda.Props.C02
open Opda.Emp Opda.Band Opda.Wire

variable {E α : Type} [LinearOrder E] [OrderBot E] [OrderTop E]
  [Field α] [LinearOrder α] [IsStrictOrderedRing α]

/-- every band cdf value is the level indexed by the number of extended sample points `≤ t`: 0 below `a`, `levels[k-1]`
in between, 1 from `b` on — for every sample (ties allowed), every bounds, every level table, every `t`.  In particular no
band puts mass outside `[a,b]`. -/
theorem band_cdf_eq_level_of_count (a b : E) (ys : List E) (levels : List α) (t : E)
    (hlen : levels.length = ys.length + 1) :
    cdf (support ⊥ ⊤ a b (bandObs a b ys levels)) t
      = levelAt (countLE t (sort (a :: (ys ++ [b])))) levels := band_cdf a b ys levels t hlen

/-- **bracket / widening**: level-wise ordered tables give pointwise ordered band cdfs for *all* `t`.  With
`L ≤ M ≤ U` (`M_k = k/n` is the point estimate) this is `lo.cdf ≤ pt.cdf ≤ hi.cdf`; with the tables of two confidences
it is "raising the confidence never narrows the band". -/
theorem bands_ordered_of_levels_ordered (a b : E) (ys : List E) (L U : List α) (t : E)
    (hL : L.length = ys.length + 1) (hU : U.length = ys.length + 1) (h : ∀ i, L.getD i 0 ≤ U.getD i 0) :
    cdf (support ⊥ ⊤ a b (bandObs a b ys L)) t ≤ cdf (support ⊥ ⊤ a b (bandObs a b ys U)) t :=
  band_cdf_le_of_levels_le a b ys L U t hL hU h

/-- **level-wise widening ⇒ band widening** (any four tables on the same sample and bounds): lower table decreasing and
upper table increasing at every index ⇒ `lo' ≤ lo` and `hi ≤ hi'` at every `t`. -/
theorem band_widens_of_levelwise_widening (a b : E) (ys : List E) (lo lo' hi hi' : List α) (t : E)
    (hlo : lo.length = ys.length + 1) (hlo' : lo'.length = ys.length + 1)
    (hhi : hi.length = ys.length + 1) (hhi' : hi'.length = ys.length + 1)
    (hL : ∀ i, lo'.getD i 0 ≤ lo.getD i 0) (hU : ∀ i, hi.getD i 0 ≤ hi'.getD i 0) :
    cdf (support ⊥ ⊤ a b (bandObs a b ys lo')) t ≤ cdf (support ⊥ ⊤ a b (bandObs a b ys lo)) t
      ∧ cdf (support ⊥ ⊤ a b (bandObs a b ys hi)) t ≤ cdf (support ⊥ ⊤ a b (bandObs a b ys hi')) t :=
  ⟨band_cdf_le_of_levels_le a b ys lo' lo t hlo' hlo hL, band_cdf_le_of_levels_le a b ys hi hi' t hhi hhi' hU⟩

/-- **the bands depend on the sample through ranks only**: permuting the sample leaves every band cdf value unchanged -/
theorem bands_permutation_invariant (a b : E) (ys ys' : List E) (levels : List α) (t : E) (hp : ys.Perm ys')
    (hlen : levels.length = ys.length + 1) :
    cdf (support ⊥ ⊤ a b (bandObs a b ys levels)) t = cdf (support ⊥ ⊤ a b (bandObs a b ys' levels)) t := by
  rw [band_cdf_extCount a b ys levels t hlen, band_cdf_extCount a b ys' levels t (by rw [hlen, hp.length_eq]),
    extCount_perm a b t hp]

/-- **the bands depend on the sample through ranks only**: a strictly increasing map applied to sample, bounds and query
leaves every band cdf value unchanged -/
theorem bands_monotone_map_invariant {E' : Type} [LinearOrder E'] [OrderBot E'] [OrderTop E']
    (g : E → E') (hg : StrictMono g) (a b : E) (ys : List E) (levels : List α) (t : E)
    (hlen : levels.length = ys.length + 1) :
    cdf (support ⊥ ⊤ (g a) (g b) (bandObs (g a) (g b) (ys.map g) levels)) (g t)
      = cdf (support ⊥ ⊤ a b (bandObs a b ys levels)) t := by
  rw [band_cdf_extCount (g a) (g b) (ys.map g) levels (g t) (by rw [hlen, List.length_map]),
    band_cdf_extCount a b ys levels t hlen, extCount_map g hg]

/-- **tuning-curve bands**: if `F ≤ G` pointwise then `Q_G ≤ Q_F` at every level, for *any* two distribution
functions whose quantile functions satisfy the Galois law above `a` (in particular the three band distributions, by
C03, and any CDF lying inside the CDF band): the upper CDF band gives the lower tuning-curve band. -/
theorem quantile_band_antitone {E α : Type} [Preorder E] [Preorder α]
    (a : E) (F G : E → α) (QF QG : α → E)
    (hF : ∀ q y, a ≤ y → (QF q ≤ y ↔ q ≤ F y)) (hG : ∀ q y, a ≤ y → (QG q ≤ y ↔ q ≤ G y))
    (hle : ∀ y, F y ≤ G y) (haF : ∀ q, a ≤ QF q) (q : α) : QG q ≤ QF q :=
  Opda.Small.quantile_antitone a F G QF QG hF hG hle haF q


/-- closed form of the index: `cdf t = levelAt ([a ≤ t] + #{i : y_i ≤ t} + [b ≤ t]) levels` -/
theorem band_cdf_eq_level_of_sample_count (a b : E) (ys : List E) (levels : List α) (t : E)
    (hlen : levels.length = ys.length + 1) :
    cdf (support ⊥ ⊤ a b (bandObs a b ys levels)) t
      = levelAt ((if a ≤ t then 1 else 0) + ys.countP (fun v => decide (v ≤ t)) + (if b ≤ t then 1 else 0)) levels := by
  rw [band_cdf_extCount a b ys levels t hlen, extCount_eq_add]

/-- **no band puts mass below `a`**: for *every* level table, each of lo / pt / hi has cdf 0 strictly below `a`
(bounds as the class validates them: `a ≤ min ys`, `a ≤ b`). -/
theorem band_no_mass_below_a (a b : E) (ys : List E) (levels : List α) (t : E) (hlen : levels.length = ys.length + 1)
    (hta : t < a) (hys : ∀ y ∈ ys, a ≤ y) (hab : a ≤ b) :
    cdf (support ⊥ ⊤ a b (bandObs a b ys levels)) t = 0 := by
  rw [band_cdf_extCount a b ys levels t hlen,
    extCount_eq_zero hta (fun y hy => hta.trans_le (hys y hy)) (hta.trans_le hab), levelAt_zero]

/-- **no band puts mass above `b`**: for every level table the cdf is 1 from `b` on. -/
theorem band_no_mass_above_b (a b : E) (ys : List E) (levels : List α) (t : E) (hlen : levels.length = ys.length + 1)
    (hbt : b ≤ t) (hys : ∀ y ∈ ys, y ≤ b) (hab : a ≤ b) :
    cdf (support ⊥ ⊤ a b (bandObs a b ys levels)) t = 1 := by
  rw [band_cdf_extCount a b ys levels t hlen,
    extCount_eq_length (hab.trans hbt) (fun y hy => (hys y hy).trans hbt) hbt, levelAt_of_length_lt]
  omega

/-- between the bounds the band cdf is the level indexed by the number of observations `≤ t` -/
theorem band_cdf_between_bounds (a b : E) (ys : List E) (levels : List α) (t : E) (hlen : levels.length = ys.length + 1)
    (hat : a ≤ t) (htb : t < b) :
    cdf (support ⊥ ⊤ a b (bandObs a b ys levels)) t = levels.getD (ys.countP (fun v => decide (v ≤ t))) 0 := by
  rw [band_cdf_extCount a b ys levels t hlen, extCount_inside ys hat htb, levelAt_succ]
  exact hlen ▸ Nat.lt_succ_of_le List.countP_le_length

/-- **the lower band is 0 below the smallest observation**: any table with `L_0 = 0` (true of the dkw/ks tables,
`lower_level_zero`), any `t` below every observation and below `b`. -/
theorem lower_band_zero_below_min (a b : E) (ys : List E) (levels : List α) (t : E)
    (hlen : levels.length = ys.length + 1) (hL0 : levels.getD 0 0 = 0) (hys : ∀ y ∈ ys, t < y) (htb : t < b) :
    cdf (support ⊥ ⊤ a b (bandObs a b ys levels)) t = 0 := by
  rcases le_or_gt a t with hat | hat
  · rw [band_cdf_between_bounds a b ys levels t hlen hat htb,
      List.countP_eq_zero.mpr fun y hy => by simpa using hys y hy, hL0]
  · rw [band_cdf_extCount a b ys levels t hlen, extCount_eq_zero hat hys htb, levelAt_zero]

/-- **the upper band is 1 from the largest observation on**: any table with `U_n = 1` (true of the dkw/ks tables,
`upper_level_last_one`).  "Largest support point" means `max ys`, not `b`: the band reaches 1 at `max ys` already when
`b > max ys`, because the mass that `diff(…, append=[1.])` puts on `b` is `1 − U_n = 0`. -/
theorem upper_band_one_from_max (a b : E) (ys : List E) (levels : List α) (t : E)
    (hlen : levels.length = ys.length + 1) (hUn : levels.getD ys.length 0 = 1) (hat : a ≤ t) (hys : ∀ y ∈ ys, y ≤ t) :
    cdf (support ⊥ ⊤ a b (bandObs a b ys levels)) t = 1 := by
  rcases lt_or_ge t b with htb | hbt
  · rw [band_cdf_between_bounds a b ys levels t hlen hat htb,
      List.countP_eq_length.mpr fun y hy => by simpa using hys y hy, hUn]
  · rw [band_cdf_extCount a b ys levels t hlen, extCount_eq_length hat hys hbt, levelAt_of_length_lt]
    omega

/-- `L_0 = 0`, the hypothesis of `lower_band_zero_below_min`, holds for the dkw/ks tables `clip(arange(n+1)/n − ε, 0, 1)`
at every `ε ≥ 0` -/
theorem lower_level_zero (n : ℕ) {ε : α} (h : 0 ≤ ε) : (loLevels n ε).getD 0 0 = 0 := by
  rw [loLevels, getD_map_range, if_pos n.succ_pos, Nat.cast_zero, zero_div, zero_sub,
    clip01_of_nonpos (neg_nonpos.mpr h)]

/-- `U_n = 1`, the hypothesis of `upper_band_one_from_max`, holds for the dkw/ks tables `clip(arange(n+1)/n + ε, 0, 1)`
at every `ε ≥ 0` (`n ≥ 1`) -/
theorem upper_level_last_one (n : ℕ) (hn : 0 < n) {ε : α} (h : 0 ≤ ε) : (hiLevels n ε).getD n 0 = 1 := by
  rw [hiLevels, getD_map_range, if_pos n.lt_succ_self, div_self (Nat.cast_ne_zero.mpr hn.ne'),
    clip01_of_one_le (le_add_of_nonneg_right h)]

/-- **raising `ε` (the confidence) never narrows the dkw/ks band**: `ε ≤ ε'` ⇒ `lo' ≤ lo` and `hi ≤ hi'` at every `t`. -/
theorem widening_of_eps (a b : E) (ys : List E) (t : E) {ε ε' : α} (h : ε ≤ ε') :
    cdf (support ⊥ ⊤ a b (bandObs a b ys (loLevels ys.length ε'))) t
        ≤ cdf (support ⊥ ⊤ a b (bandObs a b ys (loLevels ys.length ε))) t
      ∧ cdf (support ⊥ ⊤ a b (bandObs a b ys (hiLevels ys.length ε))) t
        ≤ cdf (support ⊥ ⊤ a b (bandObs a b ys (hiLevels ys.length ε'))) t :=
  band_widens_of_levelwise_widening a b ys _ _ _ _ t (loLevels_length _ _) (loLevels_length _ _)
    (hiLevels_length _ _) (hiLevels_length _ _) (loLevels_anti _ h)
    (levels_le_of_radius_le (hiLevels_eq _ ε) (hiLevels_eq _ ε') (neg_le_neg h))

/-- **pt is the band with the uniform table `i/n`**: the empirical distribution of the sample has the cdf of the band
distribution built from `arange(n+1)/n` — which makes the bracket an instance of `bands_ordered_of_levels_ordered`. -/
theorem pt_is_uniform_band (a b : E) (ys : List E) (t : E) (hne : ys ≠ []) (hys : ∀ y ∈ ys, a ≤ y ∧ y ≤ b) :
    cdf (support ⊥ ⊤ a b (ys.map fun y => (y, (1 : α)))) t
      = cdf (support ⊥ ⊤ a b (bandObs a b ys (ptLevels ys.length))) t := by
  have hn : (ys.length : α) ≠ 0 := Nat.cast_ne_zero.mpr (List.length_pos_iff.mpr hne).ne'
  have hab : a ≤ b := by
    obtain ⟨y, hy⟩ := List.exists_mem_of_ne_nil ys hne
    exact (hys y hy).1.trans (hys y hy).2
  rw [cdf_support, weightLE_unit, total_unit]
  -- both sides in closed form on the three ranges of `t`
  rcases lt_or_ge t a with hta | hat
  · rw [band_no_mass_below_a a b ys _ t (ptLevels_length _) hta (fun y hy => (hys y hy).1) hab,
      List.countP_eq_zero.mpr fun y hy => by simpa using hta.trans_le (hys y hy).1, Nat.cast_zero, zero_div]
  · rcases lt_or_ge t b with htb | hbt
    · rw [band_cdf_between_bounds a b ys _ t (ptLevels_length _) hat htb, ptLevels, getD_map_range,
        if_pos (Nat.lt_succ_of_le List.countP_le_length)]
    · rw [band_no_mass_above_b a b ys _ t (ptLevels_length _) hbt (fun y hy => (hys y hy).2) hab,
        List.countP_eq_length.mpr fun y hy => by simpa using (hys y hy).2.trans hbt, div_self hn]

/-- **bracket for dkw / ks**: `lo.cdf ≤ pt.cdf ≤ hi.cdf` at every `t` and every `ε ≥ 0`, `pt` being the actual empirical
distribution of the sample. -/
theorem dkw_ks_bracket (a b : E) (ys : List E) (t : E) (hne : ys ≠ []) (hys : ∀ y ∈ ys, a ≤ y ∧ y ≤ b)
    {ε : α} (h : 0 ≤ ε) :
    cdf (support ⊥ ⊤ a b (bandObs a b ys (loLevels ys.length ε))) t
        ≤ cdf (support ⊥ ⊤ a b (ys.map fun y => (y, (1 : α)))) t
      ∧ cdf (support ⊥ ⊤ a b (ys.map fun y => (y, (1 : α)))) t
        ≤ cdf (support ⊥ ⊤ a b (bandObs a b ys (hiLevels ys.length ε))) t := by
  rw [pt_is_uniform_band a b ys t hne hys]
  exact band_widens_of_levelwise_widening a b ys _ _ _ _ t (ptLevels_length _) (loLevels_length _ _)
    (ptLevels_length _) (hiLevels_length _ _) (levels_le_of_radius_le rfl (ptLevels_eq _) h)
    (levels_le_of_radius_le (ptLevels_eq _) (hiLevels_eq _ ε) (neg_nonpos.mpr h))

/-- non-vacuity: a tied sample strictly inside infinite/finite bounds, a query below the sample and one above it. -/
example : (∀ y ∈ ([Ext.fin 2, Ext.fin 2, Ext.fin 5] : List Ext), Ext.fin 0 ≤ y ∧ y ≤ Ext.posInf)
    ∧ (∀ y ∈ ([Ext.fin 2, Ext.fin 2, Ext.fin 5] : List Ext), Ext.fin 1 < y) ∧ Ext.fin 1 < Ext.posInf
    ∧ (∀ y ∈ ([Ext.fin 2, Ext.fin 2, Ext.fin 5] : List Ext), y ≤ Ext.fin 5) ∧ Ext.fin 0 ≤ Ext.fin 5
    ∧ (loLevels 3 ((1:ℚ)/4)).length = 3 + 1 ∧ (0:ℚ) ≤ 1/4 ∧ ((1:ℚ)/4) ≤ 1/2 := by
  decide +kernel

/-- **dkw, confidences below 1**: for every non-empty sample, bounds, query `t` and `0 ≤ c ≤ c' < 1`, with the tables
`clip(i/n ∓ ε(n,c))` of `_dkw_band_weights` and `ε(n,c) = sqrt(log(2/(1−c))/(2n))` (`Opda.Dkw.eps`, the closed form of
`dkw_epsilon`): `lo_{c'}(t) ≤ lo_c(t)` and `hi_c(t) ≤ hi_{c'}(t)`.  Nothing is assumed about the tables. -/
theorem dkw_band_widens_with_confidence (a b : E) (ys : List E) (t : E) (hne : ys ≠ []) {c c' : ℝ}
    (hc0 : 0 ≤ c) (hcc : c ≤ c') (hc1 : c' < 1) :
    cdf (support ⊥ ⊤ a b (bandObs a b ys (loLevels ys.length (Opda.Dkw.eps ys.length c')))) t
        ≤ cdf (support ⊥ ⊤ a b (bandObs a b ys (loLevels ys.length (Opda.Dkw.eps ys.length c)))) t
      ∧ cdf (support ⊥ ⊤ a b (bandObs a b ys (hiLevels ys.length (Opda.Dkw.eps ys.length c)))) t
        ≤ cdf (support ⊥ ⊤ a b (bandObs a b ys (hiLevels ys.length (Opda.Dkw.eps ys.length c')))) t :=
  widening_of_eps a b ys t
    (Opda.Dkw.eps_mono_c ys.length c c' (by exact_mod_cast List.length_pos_iff.mpr hne) hc0 hcc hc1)

/-- **confidence 1 is the trivial band**: `dkw_epsilon(n, 1) = +∞`, so the code's tables are `clip(−∞) = 0` and
`clip(+∞) = 1` at every index (`dkwLo n 1`, `dkwHi n 1`); these are the tables `clip(i/n ∓ ε)` of *every* radius `ε ≥ 1`. -/
theorem dkw_tables_at_confidence_one (n : ℕ) {ε : ℝ} (h : 1 ≤ ε) :
    dkwLo n 1 = List.replicate (n + 1) 0 ∧ dkwHi n 1 = List.replicate (n + 1) 1
      ∧ loLevels n ε = List.replicate (n + 1) 0 ∧ hiLevels n ε = List.replicate (n + 1) 1 :=
  ⟨dkwLo_one n, dkwHi_one n, loLevels_of_one_le n h, hiLevels_of_one_le n h⟩

/-- **dkw, every pair of confidences `0 ≤ c ≤ c' ≤ 1`**, `c' = 1` included (`dkwLo`/`dkwHi` are `clip(i/n ∓ ε(n,c))`
below 1 and the all-0 / all-1 tables at 1): the band of `c'` contains the band of `c` at every `t`. -/
theorem dkw_band_widens_up_to_confidence_one (a b : E) (ys : List E) (t : E) (hne : ys ≠ []) {c c' : ℝ}
    (hc0 : 0 ≤ c) (hcc : c ≤ c') (hc1 : c' ≤ 1) :
    cdf (support ⊥ ⊤ a b (bandObs a b ys (dkwLo ys.length c'))) t
        ≤ cdf (support ⊥ ⊤ a b (bandObs a b ys (dkwLo ys.length c))) t
      ∧ cdf (support ⊥ ⊤ a b (bandObs a b ys (dkwHi ys.length c))) t
        ≤ cdf (support ⊥ ⊤ a b (bandObs a b ys (dkwHi ys.length c'))) t := by
  obtain ⟨δ, δ', h, ⟨e1, e3⟩, e2, e4⟩ := exists_dkw_radii ys.length (List.length_pos_iff.mpr hne) hc0 hcc hc1
  exact band_widens_of_levelwise_widening a b ys _ _ _ _ t (by rw [e1, loLevels_length]) (by rw [e2, loLevels_length])
    (by rw [e3, hiLevels_length]) (by rw [e4, hiLevels_length]) (levels_le_of_radius_le e2 e1 h)
    (levels_le_of_radius_le (e3.trans (hiLevels_eq _ _)) (e4.trans (hiLevels_eq _ _)) (neg_le_neg h))

/-- non-vacuity: a sample and two confidences meeting the hypotheses, with 1 as the larger one as well. -/
example : ([Ext.fin 2, Ext.fin 2, Ext.fin 5] : List Ext) ≠ [] ∧ (0 : ℝ) ≤ 1/2 ∧ (1/2 : ℝ) ≤ 19/20 ∧ (19/20 : ℝ) < 1
    ∧ (19/20 : ℝ) ≤ 1 ∧ (1 : ℝ) ≤ 1 := by
  refine ⟨by simp, by norm_num, by norm_num, by norm_num, by norm_num, le_rfl⟩

/- The ld tables are `Opda.LdWiden.ldLo` / `ldHi`; what in `_ld_band_weights` they mirror is said at the head of
`OpdaProofs/LdWiden.lean`.  In the statements `ts` is the *sorted* array of simulated statistics (numpy sorts it), the same
for both confidences. -/

open Opda.LdWiden in
/-- **`np.quantile(ts, ·)` is non-decreasing** (numpy's default linear rule `s[j] + (h−j)(s[min(j+1,N−1)] − s[j])`,
`h = (N−1)c`, `j = ⌊h⌋`, on a sorted non-empty sample): `0 ≤ c ≤ c' ≤ 1 ⇒ quantile(c) ≤ quantile(c')`. -/
theorem np_quantile_monotone_in_level [FloorRing α] (s : List α) (hsorted : s.Pairwise (· ≤ ·)) (hne : s ≠ []) {c c' : α}
    (hc0 : 0 ≤ c) (hcc : c ≤ c') (hc1 : c' ≤ 1) : npQuantile s c ≤ npQuantile s c' :=
  npQuantile_mono s hsorted hne hc0 hcc hc1

open Opda.LdWiden in
/-- level 0 is the smallest value, level 1 the largest, every level in `[0,1]` lies between them -/
theorem np_quantile_ends [FloorRing α] (s : List α) (hsorted : s.Pairwise (· ≤ ·)) (hne : s ≠ []) {c : α}
    (hc0 : 0 ≤ c) (hc1 : c ≤ 1) :
    npQuantile s 0 = s.getD 0 0 ∧ npQuantile s 1 = s.getD (s.length - 1) 0
      ∧ s.getD 0 0 ≤ npQuantile s c ∧ npQuantile s c ≤ s.getD (s.length - 1) 0 :=
  ⟨npQuantile_zero s, npQuantile_one s hne, npQuantile_mem s hsorted hne hc0 hc1⟩

/-- **equal-tailed intervals `[Q((1−c)/2), Q((1+c)/2)]` are nested in the coverage** for every quantile function `Q`
non-decreasing on `[0,1]` -/
theorem equal_tailed_nested_in_coverage {β : Type} [Preorder β] (Q : α → β) (hQ : MonotoneOn Q (Set.Icc 0 1)) {c c' : α}
    (hc0 : 0 ≤ c) (hcc : c ≤ c') (hc1 : c' ≤ 1) :
    Q ((1 - c') / 2) ≤ Q ((1 - c) / 2) ∧ Q ((1 + c) / 2) ≤ Q ((1 + c') / 2) :=
  Opda.LdWiden.et_nested_of_monotoneOn Q hQ hc0 hcc hc1

open Opda.LdWiden Opda.BetaCheck in
/-- **the Beta(a,b) quantile function** `betaQuantile a b` (the inverse on `[0,1]` of the distribution function `G a b`)
exists, is unique and is non-decreasing on `[0,1]` — the hypothesis of `equal_tailed_nested_in_coverage` holds for it. -/
theorem beta_quantile_spec_and_monotone (a b : ℕ) (ha : 0 < a) (hb : 0 < b) :
    (∀ p ∈ Set.Icc (0 : ℝ) 1, betaQuantile a b p ∈ Set.Icc (0 : ℝ) 1 ∧ G a b (betaQuantile a b p) = p)
      ∧ (∀ p, ∀ x ∈ Set.Icc (0 : ℝ) 1, G a b x = p → betaQuantile a b p = x)
      ∧ MonotoneOn (betaQuantile a b) (Set.Icc 0 1) :=
  ⟨fun _ hp => betaQuantile_spec a b ha hb hp, fun _ _ hx h => betaQuantile_unique a b ha hb hx h,
    betaQuantile_monotoneOn a b ha hb⟩

open Opda.LdWiden in
/-- **ld, any interval rule nested in the coverage**: sorted simulated statistics `ts ⊆ [0,1]` shared by both confidences,
`0 ≤ c ≤ c' ≤ 1`, lower end points `l k` non-increasing and upper end points `u k` non-decreasing in the coverage on
`[0,1]` (`k = 1..n`) ⇒ the band of `c'` contains the band of `c` at every `t`. -/
theorem ld_band_widens_with_confidence_of_nested_intervals [FloorRing α] (l u : ℕ → α → α) (a b : E) (ys : List E) (t : E)
    (ts : List α) (hsorted : ts.Pairwise (· ≤ ·)) (hne : ts ≠ []) (hunit : ∀ x ∈ ts, 0 ≤ x ∧ x ≤ 1)
    (hl : ∀ k, 1 ≤ k → k ≤ ys.length → AntitoneOn (l k) (Set.Icc 0 1))
    (hu : ∀ k, 1 ≤ k → k ≤ ys.length → MonotoneOn (u k) (Set.Icc 0 1))
    {c c' : α} (hc0 : 0 ≤ c) (hcc : c ≤ c') (hc1 : c' ≤ 1) :
    cdf (support ⊥ ⊤ a b (bandObs a b ys (ldLo l ys.length (npQuantile ts c')))) t
        ≤ cdf (support ⊥ ⊤ a b (bandObs a b ys (ldLo l ys.length (npQuantile ts c)))) t
      ∧ cdf (support ⊥ ⊤ a b (bandObs a b ys (ldHi u ys.length (npQuantile ts c)))) t
        ≤ cdf (support ⊥ ⊤ a b (bandObs a b ys (ldHi u ys.length (npQuantile ts c')))) t := by
  have hv : npQuantile ts c ≤ npQuantile ts c' := npQuantile_mono ts hsorted hne hc0 hcc hc1
  have hm : npQuantile ts c ∈ Set.Icc (0 : α) 1 :=
    npQuantile_mem_of_forall ts hsorted hne hunit hc0 (hcc.trans hc1)
  have hm' : npQuantile ts c' ∈ Set.Icc (0 : α) 1 :=
    npQuantile_mem_of_forall ts hsorted hne hunit (hc0.trans hcc) hc1
  exact band_widens_of_levelwise_widening a b ys _ _ _ _ t (ldLo_length _ _ _) (ldLo_length _ _ _)
    (ldHi_length _ _ _) (ldHi_length _ _ _) (ldLo_anti l _ fun k h1 h2 => hl k h1 h2 hm hm' hv)
    (ldHi_mono u _ fun k h1 h2 => hu k h1 h2 hm hm' hv)

open Opda.LdWiden in
/-- **ld_equal_tailed, same seed: raising the confidence never narrows the band** — every sample (ties, any bounds), every
`t`, every non-empty sorted list `ts ⊆ [0,1]` of simulated statistics, `0 ≤ c ≤ c' ≤ 1`; the tables are built from
`etLoEnd k (n+1−k) v = betaQuantile k (n+1−k) ((1−v)/2)` and `etHiEnd … = betaQuantile … ((1+v)/2)` at the critical
values `np.quantile(ts, c)`, `np.quantile(ts, c')`.  Nothing is assumed about the Beta quantiles. -/
theorem ld_equal_tailed_band_widens_with_confidence (a b : E) (ys : List E) (t : E) (ts : List ℝ)
    (hsorted : ts.Pairwise (· ≤ ·)) (hne : ts ≠ []) (hunit : ∀ x ∈ ts, 0 ≤ x ∧ x ≤ 1)
    {c c' : ℝ} (hc0 : 0 ≤ c) (hcc : c ≤ c') (hc1 : c' ≤ 1) :
    cdf (support ⊥ ⊤ a b (bandObs a b ys
          (ldLo (fun k => etLoEnd k (ys.length + 1 - k)) ys.length (npQuantile ts c')))) t
        ≤ cdf (support ⊥ ⊤ a b (bandObs a b ys
          (ldLo (fun k => etLoEnd k (ys.length + 1 - k)) ys.length (npQuantile ts c)))) t
      ∧ cdf (support ⊥ ⊤ a b (bandObs a b ys
          (ldHi (fun k => etHiEnd k (ys.length + 1 - k)) ys.length (npQuantile ts c)))) t
        ≤ cdf (support ⊥ ⊤ a b (bandObs a b ys
          (ldHi (fun k => etHiEnd k (ys.length + 1 - k)) ys.length (npQuantile ts c')))) t :=
  ld_band_widens_with_confidence_of_nested_intervals _ _ a b ys t ts hsorted hne hunit
    (fun k h1 h2 => etLoEnd_antitoneOn k _ (by omega) (by omega))
    (fun k h1 h2 => etHiEnd_monotoneOn k _ (by omega) (by omega)) hc0 hcc hc1

open Opda.LdWiden Opda.BetaHdV in
/-- **highest-density regions are nested in the coverage**: the region of coverage `v` of Beta(a,b) is
`hdSet a b v = {x ∈ [0,1] | hdcov a b x ≤ v}` (`hdcov x` = mass of the density level set through `x`, C15); it is an
interval (order-connected, by the V shape of `hdcov`), and its end points `hdLoEnd = inf`, `hdHiEnd = sup` are
non-increasing / non-decreasing in `v` on `[0,1]`. -/
theorem highest_density_nested_in_coverage (a b : ℕ) (hab : 2 < a + b) (ha : 0 < a) (hb : 0 < b) :
    (∀ v, (hdSet a b v).OrdConnected) ∧ AntitoneOn (hdLoEnd a b) (Set.Icc 0 1) ∧ MonotoneOn (hdHiEnd a b) (Set.Icc 0 1) := by
  refine ⟨fun v => ⟨fun x hx z hz y hy => ?_⟩, hdLoEnd_antitoneOn a b hab ha hb, hdHiEnd_monotoneOn a b hab ha hb⟩
  -- V shape: left of the mode `hdcov y ≤ hdcov x`, right of it `hdcov y ≤ hdcov z`
  have hy01 : y ∈ Set.Icc (0 : ℝ) 1 := ⟨hx.1.1.trans hy.1, hy.2.trans hz.1.2⟩
  refine ⟨hy01, ?_⟩
  rcases le_total y (mode (a - 1) (b - 1)) with hym | hym
  · exact ((hdcov_strictAntiOn a b hab ha hb).antitoneOn ⟨hx.1.1, hy.1.trans hym⟩ ⟨hy01.1, hym⟩ hy.1).trans hx.2
  · exact ((hdcov_strictMonoOn a b hab ha hb).monotoneOn ⟨hym, hy01.2⟩ ⟨hym.trans hy.2, hz.1.2⟩ hy.2).trans hz.2

open Opda.LdWiden Opda.BetaHdV Opda.BetaCheck in
/-- **those end points are the code's interval** (`a, b ≥ 2`): if `x` left of the mode has `hdcov a b x = v` — i.e. the
density level set `[x, partnerR x] = {f ≥ f x}` has mass `v` — then `hdLoEnd a b v = x`, `hdHiEnd a b v = partnerR x` (the
point of equal density across the mode, C15 `hd_partner_equal_density`) and `G(partnerR x) − G(x) = v` — the interval
with equal end densities and mass `v` that `beta_highest_density_interval` searches for. -/
theorem highest_density_ends_are_level_set (a b : ℕ) (ha : 2 ≤ a) (hb : 2 ≤ b) {v x : ℝ}
    (hx : x ∈ Set.Icc 0 (mode (a - 1) (b - 1))) (h : hdcov a b x = v) :
    hdLoEnd a b v = x ∧ hdHiEnd a b v = partnerR (a - 1) (b - 1) x
      ∧ G a b (partnerR (a - 1) (b - 1) x) - G a b x = v := by
  -- `x` is the left partner of its right partner `y = partnerR x` (`hback`), so the level set through `y` is the one through
  -- `x` and `hdcov` takes the same value `v` at `y` (`hvy`); then each end point is the point on its side where `hdcov = v`.
  have hab : 2 < a + b := by omega
  have hpos : 0 < (a - 1) + (b - 1) := by omega
  have hp := (partnerR_mem (a - 1) (b - 1) hpos hx).1
  have hback : x = partnerL (a - 1) (b - 1) (partnerR (a - 1) (b - 1) x) :=
    partnerL_unique (a - 1) (b - 1) (by omega) hp hx (g_partnerR (a - 1) (b - 1) (by omega) hx).symm
  have hm1 := mode_le_one (a - 1) (b - 1)
  have hm0 := mode_nonneg (a - 1) (b - 1)
  have hvx : hdcov a b x = G a b (partnerR (a - 1) (b - 1) x) - G a b x :=
    (hdcov_of_mem a b ⟨hx.1, hx.2.trans hm1⟩).trans (hdcovRaw_left a b hx.2)
  have hvy : hdcov a b (partnerR (a - 1) (b - 1) x) = v := by
    rw [hdcov_of_mem a b ⟨hm0.trans hp.1, hp.2⟩, hdcovRaw_right' a b hab (by omega) (by omega) hp.1, ← hback, ← hvx, h]
  exact ⟨hdLoEnd_eq_of_hdcov_eq a b hab (by omega) (by omega) hx h,
    hdHiEnd_eq_of_hdcov_eq a b hab (by omega) (by omega) hp hvy, hvx.symm.trans h⟩

open Opda.LdWiden in
/-- **ld_highest_density, same seed: raising the confidence never narrows the band** (`n ≥ 2`; Beta(1,1), `n = 1`, has no
highest-density interval): as `ld_equal_tailed_band_widens_with_confidence` with the end points of the highest-density
regions `hdLoEnd k (n+1−k) v`, `hdHiEnd k (n+1−k) v`.  Nothing is assumed about the intervals. -/
theorem ld_highest_density_band_widens_with_confidence (a b : E) (ys : List E) (t : E) (ts : List ℝ) (hn : 2 ≤ ys.length)
    (hsorted : ts.Pairwise (· ≤ ·)) (hne : ts ≠ []) (hunit : ∀ x ∈ ts, 0 ≤ x ∧ x ≤ 1)
    {c c' : ℝ} (hc0 : 0 ≤ c) (hcc : c ≤ c') (hc1 : c' ≤ 1) :
    cdf (support ⊥ ⊤ a b (bandObs a b ys
          (ldLo (fun k => hdLoEnd k (ys.length + 1 - k)) ys.length (npQuantile ts c')))) t
        ≤ cdf (support ⊥ ⊤ a b (bandObs a b ys
          (ldLo (fun k => hdLoEnd k (ys.length + 1 - k)) ys.length (npQuantile ts c)))) t
      ∧ cdf (support ⊥ ⊤ a b (bandObs a b ys
          (ldHi (fun k => hdHiEnd k (ys.length + 1 - k)) ys.length (npQuantile ts c)))) t
        ≤ cdf (support ⊥ ⊤ a b (bandObs a b ys
          (ldHi (fun k => hdHiEnd k (ys.length + 1 - k)) ys.length (npQuantile ts c')))) t :=
  ld_band_widens_with_confidence_of_nested_intervals _ _ a b ys t ts hsorted hne hunit
    (fun k h1 h2 => hdLoEnd_antitoneOn k _ (by omega) (by omega) (by omega))
    (fun k h1 h2 => hdHiEnd_monotoneOn k _ (by omega) (by omega) (by omega)) hc0 hcc hc1

/-- non-vacuity: a sorted list of statistics in `[0,1]`, two confidences, a sample of length ≥ 2; and the rule evaluated:
`np.quantile([1, 2, 4], 0.75) = 3.0`, `np.quantile([1/4, 1/2, 3/4], 1/2) = 1/2`. -/
example : ([1/4, 1/2, 3/4] : List ℝ).Pairwise (· ≤ ·) ∧ ([1/4, 1/2, 3/4] : List ℝ) ≠ []
    ∧ (∀ x ∈ ([1/4, 1/2, 3/4] : List ℝ), 0 ≤ x ∧ x ≤ 1) ∧ (0 : ℝ) ≤ 1/2 ∧ (1/2 : ℝ) ≤ 19/20 ∧ (19/20 : ℝ) ≤ 1
    ∧ 2 ≤ ([Ext.fin 2, Ext.fin 2, Ext.fin 5] : List Ext).length
    ∧ Opda.LdWiden.npQuantile ([1, 2, 4] : List ℚ) (3/4) = 3
    ∧ Opda.LdWiden.npQuantile ([1/4, 1/2, 3/4] : List ℚ) (1/2) = 1/2 := by
  refine ⟨?_, List.cons_ne_nil _ _, ?_, ?_, ?_, ?_, by decide, by decide +kernel, by decide +kernel⟩
  · simp only [List.pairwise_cons, List.mem_cons, List.not_mem_nil, or_false, forall_eq_or_imp, forall_eq,
      List.Pairwise.nil, and_true, IsEmpty.forall_iff, implies_true]
    norm_num
  · simp only [List.mem_cons, List.not_mem_nil, or_false, forall_eq_or_imp, forall_eq]
    norm_num
  all_goals norm_num

/-- the band theorem for the very terms the driver evaluates -/
theorem band_cdf_driver (a b : Ext) (ys : List Ext) (levels : List Rat) (t : Ext)
    (hlen : levels.length = ys.length + 1) :
    cdf (support Ext.negInf Ext.posInf a b (bandObs a b ys levels)) t
      = levelAt (countLE t (sort (a :: (ys ++ [b])))) levels :=
  band_cdf (E := Ext) (α := Rat) a b ys levels t hlen

end Opda.Props.C02

#opda_audit Opda.Props.C02

import OpdaProofs.Audit
import OpdaProofs.RngHistory
/-!
# C14 — randomised results are reproducible, isolated and history-independent

The property theorems, each a few lines from the invariant and the normal form of `RngHistory`, and the `decide`
witnesses of finding F1.  The state machine is `OpdaModel/Rng.lean`, the very term the driver op `rng.run`
executes.  All statements are universal over
histories (`List Op` of any length), over the uninterpreted consumption `cost` of the data-dependent
generator requests, over the entropy seed of the initial global generator, numpy's legacy state and the cpu
count.  Values are terms over the uninterpreted `stream seed pos k`, so an equality proved here holds under
every interpretation of the stream; the correspondence check compares exactly these equalities with bytes.

Two machines share one definition: `Policy.asCode` memoises the ld-band table on
`(n, confidence, kind, generator object, n_jobs)` exactly as `functools.cache` on `_ld_band_weights` does;
`Policy.spec` recomputes the randomised table from the generator on every call.  The property, at full
strength, is `HistoryIndependent`: it is a theorem for `spec` (`history_independent_spec`), it is **false**
for `asCode` (`history_independent_full_is_false`, finding F1), and what does hold for `asCode` is
`history_independent_partial`.
-/
namespace Opda.Props.C14
open Opda.Rng

/-- the process after a history, started as a new process (global generator seeded from OS entropy `seed0`) -/
abbrev after (P : Policy) (cost : Cost) (seed0 legacy cpu : Nat) (h : List Op) : State :=
  exec P cost (init seed0 legacy cpu) h

/-- **The property at full strength**: after *every* history, *every* call returns the value, and leaves the
generators / global binding / legacy state, that the same call produces in a fresh process whose generator
objects are in the same states. -/
def HistoryIndependent (P : Policy) : Prop :=
  ∀ (cost : Cost) (seed0 legacy cpu : Nat) (h : List Op) (o : Op),
    observe P cost (after P cost seed0 legacy cpu h) o = observe P cost (fresh (after P cost seed0 legacy cpu h)) o

/-- full strength holds for the specification machine (randomised tables never memoised) -/
theorem history_independent_spec : HistoryIndependent .spec :=
  fun cost seed0 legacy cpu h o => observe_spec_fresh cost (inv_reachable .spec cost seed0 legacy cpu h) o

/-- **partial** (what is missing: the case where the history already contains an ld-band call with the same
`(n, confidence, kind, generator object, n_jobs)`): for the repository's machine, after every history, every
call that does not repeat such a key behaves as in a fresh process. -/
theorem history_independent_partial (cost : Cost) (seed0 legacy cpu : Nat) (h : List Op) (o : Op)
    (hno : repeatsLdKey (after .asCode cost seed0 legacy cpu h) o = false) :
    observe .asCode cost (after .asCode cost seed0 legacy cpu h) o
      = observe .asCode cost (fresh (after .asCode cost seed0 legacy cpu h)) o :=
  have hs := inv_reachable .asCode cost seed0 legacy cpu h
  observe_fresh .asCode cost hs o (ldServed_of_noRepeat hs _ hno)

/-- **finding F1**: without the proviso the statement is false for the repository's machine. Witness:
`g = default_rng(0)`, two identical `confidence_bands(…, generator=g, method="ld_equal_tailed")` calls. -/
theorem history_independent_full_is_false : ¬ HistoryIndependent .asCode :=
  fun H => absurd (H nominalCost 12345 0 16 f1History f1Call) (by decide)

/-- the witness, spelled out: the second call is a cache hit, returns the first call's table and leaves `g`
where it was … -/
theorem f1_second_call_is_a_hit :
    (step .asCode nominalCost f1State f1Call).2.hit = some true
      ∧ (step .asCode nominalCost f1State f1Call).2.value = .bands 0 (.ldTable .equalTailed 3 0 0 0)
      ∧ (step .asCode nominalCost f1State f1Call).1.view = f1State.view := by decide

/-- … while a fresh process with its generator in `g`'s current state computes from the *next* 300 000
uniforms and advances the generator; -/
theorem f1_fresh_process_differs :
    (step .asCode nominalCost (fresh f1State) f1Call).2.hit = some false
      ∧ (step .asCode nominalCost (fresh f1State) f1Call).2.value = .bands 0 (.ldTable .equalTailed 3 0 0 300000)
      ∧ (step .asCode nominalCost (fresh f1State) f1Call).1.view ≠ f1State.view := by decide

/-- the same witness with the global generator: `set_seed(0)` followed by two identical default-generator calls -/
theorem f1_global_variant :
    observe .asCode nominalCost f1StateGlobal f1CallGlobal
      ≠ observe .asCode nominalCost (fresh f1StateGlobal) f1CallGlobal := by decide

/-- both witnesses satisfy the predicate `repeatsLdKey` that keys finding F1 -/
theorem f1_witnesses_repeat_a_key :
    repeatsLdKey f1State f1Call = true ∧ repeatsLdKey f1StateGlobal f1CallGlobal = true := by decide

/-- the repository's machine *is* the specification machine on every history in which no ld key repeats:
same states, same outputs, call by call -/
theorem code_refines_spec_without_repeats (cost : Cost) (seed0 legacy cpu : Nat) (h : List Op)
    (hn : noRepeat .asCode cost (init seed0 legacy cpu) h = true) :
    exec .asCode cost (init seed0 legacy cpu) h = exec .spec cost (init seed0 legacy cpu) h
      ∧ outs .asCode cost (init seed0 legacy cpu) h = outs .spec cost (init seed0 legacy cpu) h :=
  run_code_eq_spec cost (inv_init seed0 legacy cpu) h hn

/-- **reproducibility through `set_seed`** (full strength, both machines): after *any* two histories, re-setting
the global seed to the same value and making the same default-generator call returns the same value and leaves
the global generator in the same state — `set_seed` rebinds `DEFAULT_GENERATOR` to a new object, for which
nothing can be memoised. -/
theorem setSeed_reproducible (P : Policy) (cost : Cost) (seed0 seed0' legacy legacy' cpu : Nat) (h h' : List Op)
    (z : Nat) (o : Op) (ho : o.usesGlobal = true) :
    (step P cost (step P cost (after P cost seed0 legacy cpu h) (.setSeed z)).1 o).2.value
        = (step P cost (step P cost (after P cost seed0' legacy' cpu h') (.setSeed z)).1 o).2.value
      ∧ (step P cost (step P cost (after P cost seed0 legacy cpu h) (.setSeed z)).1 o).1.globalGen
        = (step P cost (step P cost (after P cost seed0' legacy' cpu h') (.setSeed z)).1 o).1.globalGen :=
  -- both sides are the call in a new process seeded `z`
  have a := setSeed_call P cost (inv_reachable P cost seed0 legacy cpu h) z o ho
  have b := setSeed_call P cost (inv_reachable P cost seed0' legacy' cpu h') z o ho
  ⟨a.1.trans b.1.symm, a.2.trans b.2.symm⟩

/-- **isolation**: a call given an explicit generator other than the global object (and `default_rng`,
and overwriting returned arrays) leaves the global binding, the global generator's state and numpy's legacy
state untouched — one call … -/
theorem explicit_isolated (P : Policy) (cost : Cost) (seed0 legacy cpu : Nat) (h : List Op) (o : Op)
    (ho : o.avoids (after P cost seed0 legacy cpu h).global = true) :
    Untouched (after P cost seed0 legacy cpu h) (step P cost (after P cost seed0 legacy cpu h) o).1 :=
  untouched_step P cost (inv_reachable P cost seed0 legacy cpu h) o ho

/-- … and any number of them -/
theorem explicit_isolated_history (P : Policy) (cost : Cost) (seed0 legacy cpu : Nat) (h t : List Op)
    (ht : ∀ o ∈ t, o.avoids (after P cost seed0 legacy cpu h).global = true) :
    Untouched (after P cost seed0 legacy cpu h) (exec P cost (after P cost seed0 legacy cpu h) t) :=
  untouched_exec P cost (inv_reachable P cost seed0 legacy cpu h) t ht

/-- no history touches numpy's legacy global state -/
theorem legacy_untouched (P : Policy) (cost : Cost) (seed0 legacy cpu : Nat) (h : List Op) :
    (after P cost seed0 legacy cpu h).legacy = legacy :=
  (legacy_exec P cost (init seed0 legacy cpu) h).1

/-- **`n_jobs`** enters nothing but the cache key: dkw/ks calls do not depend on it at all … -/
theorem njobs_irrelevant_det (P : Policy) (cost : Cost) (s : State) (dm : DetMethod) (n conf ys : Nat)
    (gen : Option GenRef) (j j' : Option Nat) :
    step P cost s (.bands (.det dm) n conf ys gen j) = step P cost s (.bands (.det dm) n conf ys gen j') := rfl

/-- … for the specification machine an ld call returns the same value and leaves the same generators for
every `n_jobs`, after every history … -/
theorem njobs_irrelevant_spec (cost : Cost) (seed0 legacy cpu : Nat) (h : List Op) (kind : Kind) (n conf ys : Nat)
    (gen : Option GenRef) (j j' : Option Nat) :
    observe .spec cost (after .spec cost seed0 legacy cpu h) (.bands (.ld kind) n conf ys gen j)
      = observe .spec cost (after .spec cost seed0 legacy cpu h) (.bands (.ld kind) n conf ys gen j') :=
  njobs_spec cost _ kind n conf ys gen j j'

/-- … and **partial** for the repository's machine (missing: histories that already used one of the two
keys — F1 again, since `n_jobs` is part of the key) -/
theorem njobs_irrelevant_partial (cost : Cost) (seed0 legacy cpu : Nat) (h : List Op) (kind : Kind) (n conf ys : Nat)
    (gen : Option GenRef) (j j' : Option Nat)
    (h1 : repeatsLdKey (after .asCode cost seed0 legacy cpu h) (.bands (.ld kind) n conf ys gen j) = false)
    (h2 : repeatsLdKey (after .asCode cost seed0 legacy cpu h) (.bands (.ld kind) n conf ys gen j') = false) :
    observe .asCode cost (after .asCode cost seed0 legacy cpu h) (.bands (.ld kind) n conf ys gen j)
      = observe .asCode cost (after .asCode cost seed0 legacy cpu h) (.bands (.ld kind) n conf ys gen j') := by
  have hs := inv_reachable .asCode cost seed0 legacy cpu h
  rw [observe, observe, step_eq_spec _ _ _ _ (ldServed_of_noRepeat hs _ h1),
    step_eq_spec _ _ _ _ (ldServed_of_noRepeat hs _ h2)]
  exact njobs_spec cost _ kind n conf ys gen j j'

/-- **returned arrays are copies**: no array handed to a caller is a cache cell (invariant of every reachable
state) … -/
theorem returned_never_alias_cache (P : Policy) (cost : Cost) (seed0 legacy cpu : Nat) (h : List Op)
    (key : Key) (cell : Handle) (hc : (key, cell) ∈ (after P cost seed0 legacy cpu h).cache) :
    cell ∉ (after P cost seed0 legacy cpu h).returned :=
  ((inv_reachable P cost seed0 legacy cpu h).cacheFresh key cell hc).2

/-- … hence overwriting a returned array changes no later output (values, handles, hits, step counts) and no
later generator state, whatever follows -/
theorem returned_fresh (P : Policy) (cost : Cost) (seed0 legacy cpu : Nat) (h t : List Op) (i v : Nat) :
    outs P cost (after P cost seed0 legacy cpu h) t
        = outs P cost (step P cost (after P cost seed0 legacy cpu h) (.mutateReturned i v)).1 t
      ∧ (exec P cost (after P cost seed0 legacy cpu h) t).view
        = (exec P cost (step P cost (after P cost seed0 legacy cpu h) (.mutateReturned i v)).1 t).view :=
  (sameOffReturned_mutate P cost _ i v).outs (inv_reachable P cost seed0 legacy cpu h) P cost t

/-- the proviso of `history_independent_partial` is satisfiable on a history that *does* contain ld calls
(different `n_jobs`, hence a different key) -/
example : repeatsLdKey f1State (.bands (.ld .equalTailed) 3 0 0 (some 1) (some 2)) = false := by decide

/-- the hypothesis of `explicit_isolated` is satisfiable -/
example : f1Call.avoids f1State.global = true := by decide

/-- `noRepeat` holds of a history with two ld calls on different generator objects -/
example : noRepeat .asCode nominalCost (init 1 0 16)
    [.newGen 0, .bands (.ld .equalTailed) 3 0 0 (some 1) (some 1), .newGen 0,
     .bands (.ld .equalTailed) 3 0 0 (some 2) (some 1)] = true := by decide

end Opda.Props.C14

#opda_audit Opda.Props.C14

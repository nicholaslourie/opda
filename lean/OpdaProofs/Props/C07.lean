import OpdaProofs.Audit
import OpdaProofs.NoisyBisect
import OpdaProofs.NoisyLogic
import OpdaProofs.NoisyReal
import OpdaProofs.NoisyConv
import OpdaProofs.NoisyAccuracy
import OpdaProofs.BisectRobust
/-!
# C07 — NoisyQuadratic quantile function inverts its cdf  *(proof of the bisection logic; accuracy proved in exact arithmetic for even `c` and, by robust bisection against the Spec, for part of the odd `c`; measured otherwise)*

The property theorems; where a proof is short it stands here (lemmas in `NoisyLogic.lean`, `NoisyBisect.lean`,
`NoisyReal.lean`, `NoisyConv.lean`, `BisectRobust.lean`, `NoisyTable.lean`, `NoisyAccuracy.lean`).  They are about `Opda.Noisy.ppf` / `ppfBisect` / `bisect`, the polymorphic
definitions the driver evaluates at `Float` and that `harness/corr_C07.py` ties to
`NoisyQuadraticDistribution.ppf` on every run; `bisect_is_generic` shows that the model's bisection is
literally an instance of `Bisect.run`, the object of the monotonicity theorem.  The cdf inside the
bisection is `Opda.Noisy.cdf F d` for an **arbitrary** record `F` (any `pow`, `Φ`, `φ`, `cos`, table …),
so "ppf is non-decreasing" needs no monotonicity of the (float) cdf.

**Accuracy clause `|cdf(ppf q) − q| ≤ 1e-5`**: *proved* over `ℝ` (exact arithmetic, `realFns`: real `Φ`, `φ`, `rpow`)
for **even `c = 2k`, `1 ≤ k ≤ 50`**, every `a ≤ b`, `o ≥ 0` other than the point mass, both shapes, every `q ∈ (0,1)`
(`cdf_ppf_even_all_regimes_partial`; series regime: `cdf_ppf_even_series_partial`, from C06's Model = Spec for even `c`,
the Lipschitz constant `k/(b−a)` of the mixture cdf and the Chernoff bound `Φ(−6) ≤ e^{−18}`); for **every `c`** in the
noiseless and normal regimes (`cdf_ppf_noiseless_real`, `cdf_ppf_normal_real`: exact inverses).

**Odd `c`, series regime** (section `odd`, lemmas in `OpdaProofs/BisectRobust.lean` and `OpdaProofs/NoisyAccuracy.lean`): there the model's cdf is a
piecewise-polynomial approximation, within `ε = 1.02·max_error(selected entry)` of the Spec at every real `y` (C06 ∘ C19) and
not known to be monotone.  `bisect_accuracy_robust` / `bisect_robust_generic`: a bisection that runs on a function `ε`-close to
a monotone `L`-Lipschitz `G` returns `y` with `|G y − q| ≤ ε + L·w + tail`, hence residual `≤ 2ε + L·w + tail` (`w` the final
bracket width).  With `G` = the Spec (`spec_monotone_lipschitz_tails`: monotone for `c ≥ 1`, `(c/2)/(b−a)`-Lipschitz for `c ≥ 2`,
Gaussian tails; `spec_lipschitz_from_noise`: `0.4/o`-Lipschitz for every `c ≥ 1`) and the shipped table (regenerated from
`_approximations.json` on every run; this file imports the generated certificates):
`cdf_ppf_odd_shipped_table_partial` — odd `c ≥ 3`: `|cdf(ppf q) − q| ≤ 2·1.02·max_error(e) + (c/2)(1+12·o/(b−a))/2^30 + Φ(−6)`;
`cdf_ppf_odd_shipped_table_noise_partial` — every odd `c` with a row, `c = 1` included, middle term `0.4(12 + (b−a)/o)/2^30`;
`cdf_ppf_odd_tolerance_partial` — **the property's `1e-5` itself** for `c = 9` (every scale of the regime), `c = 5` with
`o/(b−a) < 1/5`, `c = 3` with `o/(b−a) < 1/50` (kernel check `shipped_entries_within_tolerance` on the table).

**Not theorems**: the accuracy clause at `1e-5` for **`c = 1`, `c = 7`, `c = 5` at scales `≥ 0.2`, `c = 3` at scales `≥ 0.02`**
in the series regime (the proved bound `2·1.02·max_error + …` exceeds `1e-5` there — at the time of writing 1.6e-5 for `c = 7`, up to
1.6e-3 for `c = 1`, not checked; the factor 2 is inherent to a bisection on a cdf known only to be `ε`-close to a monotone function) — measured on
every run; `c > 100`; everything about **IEEE rounding** (the theorems are at `ℝ`; at `Float` the residual is measured every
run with the code's own cdf); that `normal_ppf(0) = −∞`, `normal_ppf(1) = +∞` in the `normal` regime (a fact about
`erfinv`, compared).
-/
namespace Opda.Props.C07
open Opda.Noisy

/-- the model's bisection loop is `Bisect.run` (for every linear order, `f`, midpoint operator) -/
theorem bisect_is_generic {α : Type} [LinearOrder α] (f : α → α) (mid : α → α → α) (q : α) (k : Nat) (br : α × α) :
    bisect f mid q k br = Bisect.run f mid q k br := bisect_eq_run f mid q k br

section field
variable {α : Type} [Field α] [LinearOrder α] [IsStrictOrderedRing α] {F : Fns α}

/-- **T1 `bisect_monotone_any_F`**: the value returned by the 30-step bisection on `[a−6o, b+6o]` is
non-decreasing in `q`, whatever the cdf inside computes. -/
theorem bisect_monotone_any_F (hF : Lawful F) (d : Params α) (hab : d.a ≤ d.b) (ho : 0 ≤ d.o) (q q' : α)
    (hq : q ≤ q') : ppfBisect F d q ≤ ppfBisect F d q' := ppfBisect_mono hF d hab ho q q' hq

/-- **T1 for the whole method** (series regime): `ppf` is non-decreasing on all of `q`, the explicit end
values included, as soon as `−∞`/`+∞` lie outside the bracket. -/
theorem ppf_monotone_series (hF : Lawful F) (d : Params α) (hab : d.a ≤ d.b) (hp : pointMass F d = false)
    (h : regime F d = .nothing) (hneg : F.negInf ≤ d.a - 6 * d.o) (hpos : d.b + 6 * d.o ≤ F.posInf)
    (q q' : α) (hq : q ≤ q') : ppf F d q ≤ ppf F d q' := ppf_mono_series hF d hp h hneg hpos q q' hq

/-- **T2 `bisect_bracket`**: `a−6o ≤ lo₃₀ ≤ result ≤ hi₃₀ ≤ b+6o` and `hi₃₀ − lo₃₀ = (b−a+12o)/2^30`
(the code's bracket and step count). -/
theorem bisect_bracket (hF : Lawful F) (d : Params α) (hab : d.a ≤ d.b) (ho : 0 ≤ d.o) (q : α) :
    let br := bisect (cdf F d) (midpoint F) q 30 (d.a - F.n 6 * d.o, d.b + F.n 6 * d.o)
    d.a - 6 * d.o ≤ br.1 ∧ br.1 ≤ ppfBisect F d q ∧ ppfBisect F d q ≤ br.2 ∧ br.2 ≤ d.b + 6 * d.o
      ∧ br.2 - br.1 = (d.b - d.a + 12 * d.o) / 2 ^ 30 := ppfBisect_bracket hF d hab ho q

/-- **T2' `bisect_accuracy`** (conditional): a monotone, `L`-Lipschitz cdf is inverted to within
`L·(b−a+12o)/2^30` plus the distance of `q` from `[cdf(a−6o), cdf(b+6o)]`. -/
theorem bisect_accuracy (hF : Lawful F) (d : Params α) (hab : d.a ≤ d.b) (ho : 0 ≤ d.o) (L q : α)
    (hmono : ∀ x y, d.a - 6 * d.o ≤ x → x ≤ y → y ≤ d.b + 6 * d.o → cdf F d x ≤ cdf F d y)
    (hlip : ∀ x y, d.a - 6 * d.o ≤ x → x ≤ y → y ≤ d.b + 6 * d.o → cdf F d y - cdf F d x ≤ L * (y - x)) :
    |cdf F d (ppfBisect F d q) - q| ≤ L * ((d.b - d.a + 12 * d.o) / 2 ^ 30)
      + max 0 (max (cdf F d (d.a - 6 * d.o) - q) (q - cdf F d (d.b + 6 * d.o))) :=
  ppfBisect_accuracy hF d hab ho L q hmono hlip

/-- **T2'' `bisect_accuracy_robust`** (conditional, for a cdf that is *not* known to be monotone): if the model's cdf is
within `ε` of some `G` on the bracket, and `G` is monotone and `L`-Lipschitz there, then the value returned by the 30-step
bisection **on the model's cdf** satisfies `|cdf(ppf q) − q| ≤ 2ε + L·(b−a+12o)/2^30` plus the distance of `q` from
`[G(a−6o), G(b+6o)]`.  (The loop only compares `cdf mid` with `q`, so every moved end point has `G lo < q + ε` resp.
`q − ε ≤ G hi`.)  With `G = cdf`, `ε = 0` this is `bisect_accuracy`. -/
theorem bisect_accuracy_robust (hF : Lawful F) (d : Params α) (hab : d.a ≤ d.b) (ho : 0 ≤ d.o) (G : α → α) (L ε q : α)
    (hclose : ∀ x, d.a - 6 * d.o ≤ x → x ≤ d.b + 6 * d.o → |cdf F d x - G x| ≤ ε)
    (hmono : ∀ x y, d.a - 6 * d.o ≤ x → x ≤ y → y ≤ d.b + 6 * d.o → G x ≤ G y)
    (hlip : ∀ x y, d.a - 6 * d.o ≤ x → x ≤ y → y ≤ d.b + 6 * d.o → G y - G x ≤ L * (y - x)) :
    |cdf F d (ppfBisect F d q) - q| ≤ 2 * ε + L * ((d.b - d.a + 12 * d.o) / 2 ^ 30)
      + max 0 (max (G (d.a - 6 * d.o) - q) (q - G (d.b + 6 * d.o))) :=
  ppfBisect_accuracy_robust hF d hab ho G L ε q hclose hmono hlip

/-- the same for the generic `Bisect.run` with any number of steps and any bracket (the object `bisect_is_generic` identifies
the model's loop with): `f` arbitrary, `g` monotone and `L`-Lipschitz on `[lo, hi]`, `|f − g| ≤ ε` there; the midpoint `y` of
the final bracket has `|g y − q| ≤ ε + L(hi−lo)/2^k + tail` and `|f y − q| ≤ 2ε + L(hi−lo)/2^k + tail`,
`tail = max 0 (max (g lo − q) (q − g hi))`. -/
theorem bisect_robust_generic (f g : α → α) (L ε q : α) (k : Nat) (lo hi : α) (hlh : lo ≤ hi)
    (hclose : ∀ x, lo ≤ x → x ≤ hi → |f x - g x| ≤ ε)
    (hmono : ∀ x y, lo ≤ x → x ≤ y → y ≤ hi → g x ≤ g y)
    (hlip : ∀ x y, lo ≤ x → x ≤ y → y ≤ hi → g y - g x ≤ L * (y - x)) :
    let br := Bisect.run f (fun lo hi => (lo + hi) / 2) q k (lo, hi)
    |g ((br.1 + br.2) / 2) - q| ≤ ε + L * ((hi - lo) / 2 ^ k) + max 0 (max (g lo - q) (q - g hi))
      ∧ |f ((br.1 + br.2) / 2) - q| ≤ 2 * ε + L * ((hi - lo) / 2 ^ k) + max 0 (max (g lo - q) (q - g hi)) :=
  ⟨run_accuracy_robust_spec f g L ε q k lo hi hlh hclose hmono hlip,
   run_accuracy_robust f g L ε q k lo hi hlh hclose hmono hlip⟩

/- **T3**: the end-point decision table -/

/-- point mass `a = b ∧ o = 0`: `ppf` is constantly `a` -/
theorem ppf_point_mass (hF : Lawful F) (d : Params α) (hab : d.a = d.b) (ho : d.o = 0) (q : α) :
    ppf F d q = d.a := ppf_point d q ((pointMass_iff hF d).mpr ⟨hab, ho⟩)

/-- **C07-T3**: noise modelled by the series: `ppf 0 = −∞`, `ppf 1 = +∞` -/
theorem ppf_endpoints_series (hF : Lawful F) (d : Params α) (hab : d.a ≤ d.b) (hp : pointMass F d = false)
    (h : regime F d = .nothing) : ppf F d 0 = F.negInf ∧ ppf F d 1 = F.posInf := by
  rw [ppf_nothing hF d 0 hp h, ppf_nothing hF d 1 hp h,
    clip_of_mem (0:α) 0 1 le_rfl zero_le_one, clip_of_mem (1:α) 0 1 zero_le_one le_rfl,
    if_pos rfl, if_neg one_ne_zero, if_pos rfl]
  exact ⟨rfl, rfl⟩

/-- inside `(0,1)` the series regime returns the bisection result -/
theorem ppf_series_inside (hF : Lawful F) (d : Params α) (hab : d.a ≤ d.b) (q : α) (hp : pointMass F d = false)
    (h : regime F d = .nothing) :
    ppf F d q = if clip q 0 1 = 0 then F.negInf else if clip q 0 1 = 1 then F.posInf
      else ppfBisect F d (clip q 0 1) := ppf_nothing hF d q hp h

/-- the `if o == 0: clip` line after the bisection is unreachable -/
theorem clip_branch_unreachable (hF : Lawful F) (d : Params α) (hab : d.a ≤ d.b)
    (h : regime F d = .nothing) : F.eq d.o (F.n 0) = false := Opda.Noisy.clip_branch_unreachable hF d h

/-- noiseless regime (`o < 1e-6 (b−a)`, which contains `o = 0 < b−a`): closed form of the noiseless class -/
theorem ppf_closed_form_noiseless (d : Params α) (q : α) (hp : pointMass F d = false) (h : regime F d = .noiseless) :
    ppf F d q = if d.convex then d.a + (d.b - d.a) * F.pow (clip q (F.n 0) (F.n 1)) (F.n 2 / F.n d.c)
      else d.b - (d.b - d.a) * F.pow (F.n 1 - clip q (F.n 0) (F.n 1)) (F.n 2 / F.n d.c) := ppf_noiseless d q hp h

/-- … hence `ppf 0 = a`, `ppf 1 = b` for any `pow` with `0^k = 0`, `1^k = 1` -/
theorem ppf_endpoints_noiseless (hF : Lawful F) (d : Params α) (hp : pointMass F d = false)
    (h : regime F d = .noiseless) (hp0 : F.pow 0 (F.n 2 / F.n d.c) = 0) (hp1 : F.pow 1 (F.n 2 / F.n d.c) = 1) :
    ppf F d 0 = d.a ∧ ppf F d 1 = d.b := Opda.Noisy.ppf_endpoints_noiseless hF d hp h hp0 hp1

/-- `o = 0 < b − a` is in the noiseless regime -/
theorem zero_noise_is_noiseless (hF : Lawful F) (d : Params α) (hab : d.a < d.b) (ho : d.o = 0) :
    regime F d = .noiseless ∧ pointMass F d = false := by
  refine ⟨?_, pointMass_eq_false hF d (.inl hab.ne)⟩
  rw [regime_noiseless_iff hF, ho]; exact mul_pos tiny_pos (sub_pos.mpr hab)

/-- normal regime (`o ≥ 10 (b−a)`): `mean + sd · Φ⁻¹(q)` -/
theorem ppf_closed_form_normal (d : Params α) (q : α) (hp : pointMass F d = false) (h : regime F d = .normal) :
    ppf F d q = meanOf F d + F.sqrt (varOf F d) * F.normalPpf (clip q (F.n 0) (F.n 1)) := ppf_normal d q hp h

end field

/-- **T3 at `ℝ`**: with `Real.rpow` the noiseless end points are `a` and `b` outright -/
theorem ppf_endpoints_noiseless_real (T : List (ℕ × List (Entry ℝ))) (ninf pinf : ℝ) (d : Params ℝ) (hc : 0 < d.c)
    (hp : pointMass (realFns T ninf pinf) d = false) (h : regime (realFns T ninf pinf) d = .noiseless) :
    ppf (realFns T ninf pinf) d 0 = d.a ∧ ppf (realFns T ninf pinf) d 1 = d.b := by
  have hne : ((2:ℕ):ℝ) / ((d.c:ℕ):ℝ) ≠ 0 := by
    have : (0:ℝ) < d.c := by exact_mod_cast hc
    positivity
  exact Opda.Noisy.ppf_endpoints_noiseless (realFns_lawful T ninf pinf) d hp h
    (Real.zero_rpow hne) (Real.one_rpow _)

/-- **inverse clause, noiseless regime, exact arithmetic**: over `ℝ` the closed forms are exact inverses,
`cdf (ppf q) = q` for every `q ∈ [0,1]`, both shapes, every `c ≥ 1` (`o < 1e-6 (b−a)`, which contains `o = 0`).
In floating point the residual is rounding (measured every run, ≤ 1e-5 demanded). -/
theorem cdf_ppf_noiseless_real (T : List (ℕ × List (Entry ℝ))) (ninf pinf : ℝ) (d : Params ℝ) (hab : d.a ≤ d.b)
    (ho : 0 ≤ d.o) (hc : 0 < d.c) (hp : pointMass (realFns T ninf pinf) d = false)
    (h : regime (realFns T ninf pinf) d = .noiseless) (q : ℝ) (hq0 : 0 ≤ q) (hq1 : q ≤ 1) :
    cdf (realFns T ninf pinf) d (ppf (realFns T ninf pinf) d q) = q :=
  Opda.Noisy.cdf_ppf_noiseless T ninf pinf d ho hc hp h q hq0 hq1

section even
variable (T : List (ℕ × List (Entry ℝ))) (ninf pinf : ℝ)

/-- **Chernoff bound for the standard normal**: `Φ(−t) ≤ exp(−t²/2)` for `t ≥ 0`, `Φ` the distribution function of
`gaussianReal 0 1`. -/
theorem gaussian_tail (t : ℝ) (ht : 0 ≤ t) : Phi (-t) ≤ Real.exp (-(t ^ 2) / 2) := Phi_neg_le_exp t ht

/-- … hence `Φ(−6) ≤ e^{−18} ≤ 2^{−18} < 3.82e-6` (true value `9.9e-10`): the mass the bracket `[a−6o, b+6o]` may cut
off on either side. -/
theorem gaussian_tail_six : Phi (-6) ≤ 1 / 262144 := Phi_neg_six_le.trans (by norm_num)

/-- **the even-`c` model cdf is monotone** (series regime, `ℝ`, `c = 2k ≥ 2`, both shapes, on all of `ℝ`). -/
theorem cdf_even_monotone (d : Params ℝ) (k : ℕ) (hk : 1 ≤ k) (hc : d.c = 2 * k) (hab : d.a ≤ d.b)
    (hp : pointMass (realFns T ninf pinf) d = false) (h : regime (realFns T ninf pinf) d = .nothing)
    (x y : ℝ) (hxy : x ≤ y) : cdf (realFns T ninf pinf) d x ≤ cdf (realFns T ninf pinf) d y := by
  have S : Series T ninf pinf d := ⟨hp, h⟩
  rw [cdf_even_eq_cdfSpec S k hk hc, cdf_even_eq_cdfSpec S k hk hc]
  exact cdfSpec_mono d S.w_pos S.o_pos (by omega) hxy

/-- **Lipschitz constant `k/(b−a) = c/(2(b−a))`** of the even-`c` model cdf, for every noise level of the series
regime: `cdf y − cdf x ≤ k/(b−a)·(y − x)` for `x ≤ y` (the noise-free density is `≤ k/(b−a)`, convolution keeps it). -/
theorem cdf_even_lipschitz (d : Params ℝ) (k : ℕ) (hk : 1 ≤ k) (hc : d.c = 2 * k) (hab : d.a ≤ d.b)
    (hp : pointMass (realFns T ninf pinf) d = false) (h : regime (realFns T ninf pinf) d = .nothing)
    (x y : ℝ) (hxy : x ≤ y) :
    cdf (realFns T ninf pinf) d y - cdf (realFns T ninf pinf) d x ≤ (k:ℝ) / (d.b - d.a) * (y - x) := by
  have S : Series T ninf pinf d := ⟨hp, h⟩
  have := cdfSpec_lipschitz d S.w_pos S.o_pos (by omega) hxy
  rwa [← cdf_even_eq_cdfSpec S k hk hc, ← cdf_even_eq_cdfSpec S k hk hc, hc, Nat.cast_mul, Nat.cast_ofNat,
    mul_div_cancel_left₀ _ two_ne_zero] at this

/-- the same two facts for the Spec itself, the mixture `H(t) = ∫₀¹ Φ((t−x)/s) d(x^k)`: non-decreasing and
`k`-Lipschitz in `t`, for every `s > 0`. -/
theorem mixture_monotone_lipschitz (k : ℕ) (s : ℝ) (hk : 1 ≤ k) (hs : 0 < s) (t t' : ℝ) (h : t ≤ t') :
    mixture k s t ≤ mixture k s t' ∧ mixture k s t' - mixture k s t ≤ k * (t' - t) :=
  ⟨mixture_mono (by positivity) hs h, mixture_lipschitz (by exact_mod_cast hk) hs h⟩

/-- **tails**: the even-`c` model cdf at the ends of the bisection bracket is within `Φ(−6)` of `0` resp. `1`. -/
theorem cdf_even_tails (d : Params ℝ) (k : ℕ) (hk : 1 ≤ k) (hc : d.c = 2 * k) (hab : d.a ≤ d.b)
    (hp : pointMass (realFns T ninf pinf) d = false) (h : regime (realFns T ninf pinf) d = .nothing) :
    cdf (realFns T ninf pinf) d (d.a - 6 * d.o) ≤ Phi (-6)
      ∧ 1 - Phi (-6) ≤ cdf (realFns T ninf pinf) d (d.b + 6 * d.o) := by
  have S : Series T ninf pinf d := ⟨hp, h⟩
  rw [cdf_even_eq_cdfSpec S k hk hc, cdf_even_eq_cdfSpec S k hk hc]
  exact cdfSpec_tails d S.w_pos S.o_pos (by omega)

/-- **accuracy with an explicit bound, every even `c ≥ 2`** (series regime, exact real arithmetic, both shapes,
`q ∈ (0,1)`): `|cdf(ppf q) − q| ≤ k(1 + 12·o/(b−a))/2^30 + Φ(−6)` — Lipschitz constant × final bracket width, plus
the Gaussian mass beyond 6 standard deviations.  `_partial`: even `c` only, `ℝ` only (odd `c`: section `odd` below; IEEE rounding: compared). -/
theorem cdf_ppf_even_explicit_partial (d : Params ℝ) (k : ℕ) (hk : 1 ≤ k) (hc : d.c = 2 * k) (hab : d.a ≤ d.b)
    (hp : pointMass (realFns T ninf pinf) d = false) (h : regime (realFns T ninf pinf) d = .nothing)
    (q : ℝ) (hq0 : 0 < q) (hq1 : q < 1) :
    |cdf (realFns T ninf pinf) d (ppf (realFns T ninf pinf) d q) - q|
      ≤ (k:ℝ) * (1 + 12 * (d.o / (d.b - d.a))) / 2 ^ 30 + Phi (-6) :=
  cdf_ppf_even_explicit T ninf pinf d k hk hc hp h q hq0 hq1

/-- **the accuracy clause, unconditional, for even `c = 2k`, `1 ≤ k ≤ 50`** (so in particular `c ∈ {2,4,6,8,10}`):
in the series regime (`pointMass = false`, `regime = .nothing`, i.e. `a < b`, `1e-6 ≤ o/(b−a) < 10` by
`regime_nothing_iff`), at the real instance `realFns T ninf pinf` (any table, any stand-ins for `±∞`), both shapes,
every `q ∈ (0,1)`: `|cdf(ppf q) − q| ≤ 1e-5` in exact real arithmetic (the bound actually obtained is
`121k/2^30 + 2e-8`, `≤ 5.7e-6`).  `a < b` and `o > 0` follow from the regime (`nothing_pos`), so the
hypothesis `a ≤ b` is not needed by the proof.  `_partial`: missing for the full clause are **odd `c`** in this regime (the cdf is then a
piecewise-polynomial approximation; partly proved in section `odd` below, otherwise compared), `c > 100`, and **IEEE rounding** (the statement is about the model
term at `ℝ`, not at `Float`; the `Float` residual is measured on every run). -/
theorem cdf_ppf_even_series_partial (d : Params ℝ) (k : ℕ) (hk : 1 ≤ k) (hk50 : k ≤ 50) (hc : d.c = 2 * k)
    (hab : d.a ≤ d.b) (hp : pointMass (realFns T ninf pinf) d = false)
    (h : regime (realFns T ninf pinf) d = .nothing) (q : ℝ) (hq0 : 0 < q) (hq1 : q < 1) :
    |cdf (realFns T ninf pinf) d (ppf (realFns T ninf pinf) d q) - q| ≤ 1e-5 :=
  cdf_ppf_even T ninf pinf d k hk hk50 hc hp h q hq0 hq1

/-- **inverse clause, normal regime, exact arithmetic, every `c`**: for `o ≥ 10 (b−a)` (not the point mass) the closed
forms `ppf q = mean + sd·Φ⁻¹(q)`, `cdf y = Φ((y−mean)/sd)` are exact inverses on `(0,1)` over `ℝ`
(`Φ⁻¹` the generalised inverse of the real `Φ`).  At `Float` the residual is that of `erf`/`erfinv` (compared). -/
theorem cdf_ppf_normal_real (d : Params ℝ) (hab : d.a ≤ d.b)
    (hp : pointMass (realFns T ninf pinf) d = false) (h : regime (realFns T ninf pinf) d = .normal)
    (q : ℝ) (hq0 : 0 < q) (hq1 : q < 1) :
    cdf (realFns T ninf pinf) d (ppf (realFns T ninf pinf) d q) = q :=
  cdf_ppf_normal T ninf pinf d hab hp h q hq0 hq1

/-- **the accuracy clause for even `c ≤ 100` in all three regimes, exact real arithmetic**: every `a ≤ b`, `o ≥ 0`
except the point mass `a = b ∧ o = 0` (where `cdf` jumps and the clause is meaningless), both shapes, `q ∈ (0,1)`.
`_partial`: odd `c` (series regime: section `odd` below, partial) and IEEE rounding are missing, as above. -/
theorem cdf_ppf_even_all_regimes_partial (d : Params ℝ) (k : ℕ) (hk : 1 ≤ k) (hk50 : k ≤ 50) (hc : d.c = 2 * k)
    (hab : d.a ≤ d.b) (ho : 0 ≤ d.o) (hp : pointMass (realFns T ninf pinf) d = false)
    (q : ℝ) (hq0 : 0 < q) (hq1 : q < 1) :
    |cdf (realFns T ninf pinf) d (ppf (realFns T ninf pinf) d q) - q| ≤ 1e-5 :=
  cdf_ppf_even_all T ninf pinf d k hk hk50 hc hab ho hp q hq0 hq1

end even

/- The accuracy clause for odd `c` (robust bisection against the Spec): see the header, **Odd `c`, series regime**. -/

section odd
open Opda.Gen Opda.Table

/-- **the Spec of both shapes is monotone (every `c ≥ 1`), `(c/2)/(b−a)`-Lipschitz (every `c ≥ 2`, so every real exponent
`c/2 ≥ 1`, half-integers included) and has Gaussian tails at the ends of the bisection bracket**, for every `a < b`, `o > 0`.
(For `c = 1` the noise-free density `½x^{−½}` is unbounded and no noise-independent Lipschitz constant exists.) -/
theorem spec_monotone_lipschitz_tails (d : Params ℝ) (hab : d.a < d.b) (ho : 0 < d.o) (hc : 1 ≤ d.c) :
    (∀ x y : ℝ, x ≤ y →
      (if d.convex then mixture ((d.c : ℝ) / 2) (d.o / (d.b - d.a)) ((x - d.a) / (d.b - d.a))
        else 1 - mixture ((d.c : ℝ) / 2) (d.o / (d.b - d.a)) ((d.b - x) / (d.b - d.a)))
      ≤ (if d.convex then mixture ((d.c : ℝ) / 2) (d.o / (d.b - d.a)) ((y - d.a) / (d.b - d.a))
        else 1 - mixture ((d.c : ℝ) / 2) (d.o / (d.b - d.a)) ((d.b - y) / (d.b - d.a))))
    ∧ (2 ≤ d.c → ∀ x y : ℝ, x ≤ y →
      (if d.convex then mixture ((d.c : ℝ) / 2) (d.o / (d.b - d.a)) ((y - d.a) / (d.b - d.a))
        else 1 - mixture ((d.c : ℝ) / 2) (d.o / (d.b - d.a)) ((d.b - y) / (d.b - d.a)))
      - (if d.convex then mixture ((d.c : ℝ) / 2) (d.o / (d.b - d.a)) ((x - d.a) / (d.b - d.a))
        else 1 - mixture ((d.c : ℝ) / 2) (d.o / (d.b - d.a)) ((d.b - x) / (d.b - d.a)))
      ≤ ((d.c : ℝ) / 2) / (d.b - d.a) * (y - x))
    ∧ (if d.convex then mixture ((d.c : ℝ) / 2) (d.o / (d.b - d.a)) ((d.a - 6 * d.o - d.a) / (d.b - d.a))
        else 1 - mixture ((d.c : ℝ) / 2) (d.o / (d.b - d.a)) ((d.b - (d.a - 6 * d.o)) / (d.b - d.a))) ≤ Phi (-6)
    ∧ 1 - Phi (-6)
      ≤ (if d.convex then mixture ((d.c : ℝ) / 2) (d.o / (d.b - d.a)) ((d.b + 6 * d.o - d.a) / (d.b - d.a))
        else 1 - mixture ((d.c : ℝ) / 2) (d.o / (d.b - d.a)) ((d.b - (d.b + 6 * d.o)) / (d.b - d.a))) :=
  ⟨fun x y hxy => cdfSpec_mono d (sub_pos.mpr hab) ho hc hxy,
   fun hc2 x y hxy => cdfSpec_lipschitz d (sub_pos.mpr hab) ho hc2 hxy,
   cdfSpec_tails d (sub_pos.mpr hab) ho hc⟩

/-- the sharper tail constant used below: `Φ(−6) ≤ e^{−18} ≤ 2e-8` (`gaussian_tail_six` gives `2^{−18}`) -/
theorem gaussian_tail_six_sharp : Phi (-6) ≤ 1 / 50000000 := Phi_neg_six_le

/-- **any real instance whose series-regime cdf is within `ε` of the Spec on the bracket** (any table `T`, every `c ≥ 2`, both
shapes, `q ∈ (0,1)`): `|cdf(ppf q) − q| ≤ 2ε + (c/2)(1 + 12·o/(b−a))/2^30 + Φ(−6)`.  `_partial`: exact real arithmetic only;
`c = 1` excluded (no Lipschitz constant independent of the noise). -/
theorem cdf_ppf_within_eps_of_spec_partial (T : List (ℕ × List (Entry ℝ))) (ninf pinf : ℝ) (d : Params ℝ) (hc : 2 ≤ d.c)
    (hab : d.a ≤ d.b) (hp : pointMass (realFns T ninf pinf) d = false) (h : regime (realFns T ninf pinf) d = .nothing)
    (ε : ℝ)
    (hclose : ∀ y, d.a - 6 * d.o ≤ y → y ≤ d.b + 6 * d.o →
      |cdf (realFns T ninf pinf) d y
        - (if d.convex then mixture ((d.c : ℝ) / 2) (d.o / (d.b - d.a)) ((y - d.a) / (d.b - d.a))
           else 1 - mixture ((d.c : ℝ) / 2) (d.o / (d.b - d.a)) ((d.b - y) / (d.b - d.a)))| ≤ ε)
    (q : ℝ) (hq0 : 0 < q) (hq1 : q < 1) :
    |cdf (realFns T ninf pinf) d (ppf (realFns T ninf pinf) d q) - q|
      ≤ 2 * ε + ((d.c : ℝ) / 2) * (1 + 12 * (d.o / (d.b - d.a))) / 2 ^ 30 + Phi (-6) :=
  cdf_ppf_within_of_density ⟨hp, h⟩ hc ε hclose q hq0 hq1

variable (ninf pinf : ℝ)

/-- **odd `c ≥ 3`, series regime, shipped table, both shapes — an accuracy theorem for the bisection on the non-monotone
model cdf.**  For every `a ≤ b`, `o` in the series regime (`1e-6(b−a) ≤ o < 10(b−a)`), every odd `c = 2k+1 ≥ 3` that has a
row in the shipped table (`c ∈ {3,5,7,9}`): the scale `o/(b−a)` selects an entry `e` of that row and for every `q ∈ (0,1)`, in
exact real arithmetic (`realFns tableR`: real `Φ`, `φ`, the shipped coefficients),
`|cdf(ppf q) − q| ≤ 2·1.02·max_error(e) + (c/2)(1 + 12·o/(b−a))/2^30 + Φ(−6)`
(twice the C06 ∘ C19 distance of the model's cdf from the Spec, the Spec's Lipschitz constant × final bracket width
`≤ c·5.7e-8`, the Gaussian mass beyond `6o`, `≤ 2e-8`).
`_partial` — what is missing for the property's `1e-5`: the bound is `≤ 1e-5` only where `2.04·max_error(e) ≲ 9.4e-6`, i.e.
for the entries with `max_error ≲ 4.6e-6`; where the shipped entries satisfy that is the theorem
`cdf_ppf_odd_tolerance_partial` (kernel check `shipped_entries_within_tolerance`).  Read off the table at the time of writing
(exponent `c/2`, entry in file order, `min_scale`, `max_error`; not checked): reached by `(1.5, #3, 0, 2.4e-7)`,
`(2.5, #1, 0, 3.9e-6)`, `(4.5, #0, 0, 4.6e-6)`; not reached by `(1.5, #0–#2)` (`max_error` 5.9e-4, 5.5e-5, 1.1e-5: scales
`≥ 0.02`), `(2.5, #0)` (7.8e-5: scales `≥ 0.2`), `(3.5, #0)` (`c = 7`: 7.8e-6, bound 1.6e-5 at every scale); the factor 2 is
tight for a bisection on a function known only to be `ε`-close to a monotone one.  **`c = 1`** is not covered here (its Spec
has no noise-independent Lipschitz constant): see `cdf_ppf_odd_shipped_table_noise_partial`; its entries record
8.2e-6 … 7.9e-4 (same caveat), so the `1e-5` is out of reach of this argument at every scale.  IEEE rounding is not covered (statement at `ℝ`; the `Float`
residual is measured every run). -/
theorem cdf_ppf_odd_shipped_table_partial (d : Params ℝ) (k : ℕ) (hk : 1 ≤ k) (hc : d.c = 2 * k + 1) (hab : d.a ≤ d.b)
    (hp : pointMass (realFns tableR ninf pinf) d = false) (h : regime (realFns tableR ninf pinf) d = .nothing)
    (hkey : ∃ row ∈ tableQ, row.1 = d.c) :
    ∃ row e, rowOf tableQ d.c = some row ∧ selectR row.2 (d.o / (d.b - d.a)) = some e ∧
      ∀ q : ℝ, 0 < q → q < 1 →
        |cdf (realFns tableR ninf pinf) d (ppf (realFns tableR ninf pinf) d q) - q|
          ≤ 2 * (1.02 * (e.maxError : ℝ)) + ((d.c : ℝ) / 2) * (1 + 12 * (d.o / (d.b - d.a))) / 2 ^ 30 + Phi (-6) :=
  cdf_ppf_odd_castTable tableQ Cert.struct_ok Cert.table_bound ⟨hp, h⟩ k hk hc hkey

/-- the Spec is `0.4/o`-Lipschitz in `y` for **every** `c ≥ 1`, both shapes (`Φ' = φ ≤ 1/√(2π) < 0.4`; the noise alone
smooths the law, whatever the noise-free density does) -/
theorem spec_lipschitz_from_noise (d : Params ℝ) (hab : d.a < d.b) (ho : 0 < d.o) (hc : 1 ≤ d.c) (x y : ℝ) (hxy : x ≤ y) :
    (if d.convex then mixture ((d.c : ℝ) / 2) (d.o / (d.b - d.a)) ((y - d.a) / (d.b - d.a))
      else 1 - mixture ((d.c : ℝ) / 2) (d.o / (d.b - d.a)) ((d.b - y) / (d.b - d.a)))
    - (if d.convex then mixture ((d.c : ℝ) / 2) (d.o / (d.b - d.a)) ((x - d.a) / (d.b - d.a))
      else 1 - mixture ((d.c : ℝ) / 2) (d.o / (d.b - d.a)) ((d.b - x) / (d.b - d.a)))
    ≤ 2 / 5 / d.o * (y - x) :=
  cdfSpec_lipschitz_noise d (sub_pos.mpr hab) ho hc hxy

/-- **every odd `c` with a row in the shipped table, `c = 1` included** (series regime, both shapes, `q ∈ (0,1)`, exact real
arithmetic), with the Lipschitz constant `0.4/o` of the noise instead of `(c/2)/(b−a)`:
`|cdf(ppf q) − q| ≤ 2·1.02·max_error(e) + 0.4·(12 + (b−a)/o)/2^30 + Φ(−6)`.
`_partial`: for `c = 1` this is the only bound proved; its middle term is `≤ 3.8e-4` at the smallest scale of the regime
(`o/(b−a) = 1e-6`) and `≤ 1.7e-8` for `o/(b−a) ≥ 0.03`, and `2·1.02·max_error ≥ 1.68e-5` for every entry of the row of `c = 1`
(read off the table at the time of writing, not checked), so the property's `1e-5` is **not** obtained for `c = 1` at any scale (measured only).  IEEE rounding not covered. -/
theorem cdf_ppf_odd_shipped_table_noise_partial (d : Params ℝ) (k : ℕ) (hc : d.c = 2 * k + 1) (hab : d.a ≤ d.b)
    (hp : pointMass (realFns tableR ninf pinf) d = false) (h : regime (realFns tableR ninf pinf) d = .nothing)
    (hkey : ∃ row ∈ tableQ, row.1 = d.c) :
    ∃ row e, rowOf tableQ d.c = some row ∧ selectR row.2 (d.o / (d.b - d.a)) = some e ∧
      ∀ q : ℝ, 0 < q → q < 1 →
        |cdf (realFns tableR ninf pinf) d (ppf (realFns tableR ninf pinf) d q) - q|
          ≤ 2 * (1.02 * (e.maxError : ℝ)) + 2 / 5 * (12 + (d.b - d.a) / d.o) / 2 ^ 30 + Phi (-6) := by
  have S : Series tableR ninf pinf d := ⟨hp, h⟩
  obtain ⟨row, e, hrow, he, hy⟩ := cdf_odd_castTable tableQ Cert.struct_ok Cert.table_bound S k hc hkey
  exact ⟨row, e, hrow, he, fun q hq0 hq1 => cdf_ppf_within_of_noise S (by omega) _ (fun y _ _ => hy y) q hq0 hq1⟩

/-- kernel check on the table regenerated from `_approximations.json`: every entry of the row of key 9 that a scale `< 10`
can select records `1.02·max_error ≤ 4.67e-6`; of key 5 at scales `< 1/5`: `≤ 4.02e-6`; of key 3 at scales `< 1/50`:
`≤ 2.5e-7` (`tolOK c σmax bound`: every entry of the row has `σmax ≤ min_scale` or `1.02·max_error ≤ bound`). -/
theorem shipped_entries_within_tolerance :
    (tolOK 9 10 (467 / 100000000) && tolOK 5 (1 / 5) (402 / 100000000) && tolOK 3 (1 / 50) (25 / 100000000)) = true :=
  shipped_tolerance_check

/-- **the property's own `|cdf(ppf q) − q| ≤ 1e-5` for odd `c`, where the proved bound reaches it** (series regime, shipped
table, exact real arithmetic, both shapes, every `a ≤ b`, every `q ∈ (0,1)`):
* `c = 9` at **every** scale of the series regime (`1e-6 ≤ o/(b−a) < 10`);
* `c = 5` for `o/(b−a) < 1/5`;
* `c = 3` for `o/(b−a) < 1/50`.
`_partial`: missing are `c = 1`, `c = 7`, `c = 5` at scales `≥ 0.2`, `c = 3` at scales `≥ 0.02` — there the
clause stays a measured fact (`harness/corr_C07.py`) — and IEEE rounding. -/
theorem cdf_ppf_odd_tolerance_partial (d : Params ℝ) (hab : d.a ≤ d.b)
    (hp : pointMass (realFns tableR ninf pinf) d = false) (h : regime (realFns tableR ninf pinf) d = .nothing)
    (hcs : d.c = 9 ∨ (d.c = 5 ∧ d.o / (d.b - d.a) < 1 / 5) ∨ (d.c = 3 ∧ d.o / (d.b - d.a) < 1 / 50))
    (q : ℝ) (hq0 : 0 < q) (hq1 : q < 1) :
    |cdf (realFns tableR ninf pinf) d (ppf (realFns tableR ninf pinf) d q) - q| ≤ 1e-5 :=
  cdf_ppf_odd_tolerance ninf pinf d hp h hcs q hq0 hq1

end odd

/-- the hypotheses of the monotonicity / end-point theorems are satisfiable: series regime at `ℝ`, with
`−∞ := −1`, `+∞ := 2` outside the bracket `[−0.6, 1.6]` -/
example : Lawful (realFns [] (-1) 2)
    ∧ pointMass (realFns [] (-1) 2) { a := 0, b := 1, c := 3, o := 1/10, convex := true } = false
    ∧ regime (realFns [] (-1) 2) { a := 0, b := 1, c := 3, o := 1/10, convex := true } = .nothing
    ∧ (realFns [] (-1) 2).negInf ≤ (0:ℝ) - 6 * (1/10) ∧ (1:ℝ) + 6 * (1/10) ≤ (realFns [] (-1) 2).posInf := by
  refine ⟨realFns_lawful _ _ _, ?_, ?_, ?_, ?_⟩
  · exact pointMass_eq_false (realFns_lawful _ _ _) _ (.inl (by norm_num))
  · rw [regime_nothing_iff (realFns_lawful _ _ _)]; norm_num
  · show (-1:ℝ) ≤ _; norm_num
  · show _ ≤ (2:ℝ); norm_num

/-- `bisect_accuracy`'s hypotheses are satisfiable (a constant cdf is monotone and 0-Lipschitz) -/
example (c : ℝ) : (∀ x y : ℝ, (0:ℝ) ≤ x → x ≤ y → y ≤ 1 → (fun _ : ℝ => c) x ≤ (fun _ : ℝ => c) y)
    ∧ (∀ x y : ℝ, (0:ℝ) ≤ x → x ≤ y → y ≤ 1 → (fun _ : ℝ => c) y - (fun _ : ℝ => c) x ≤ 0 * (y - x)) := by
  constructor <;> intros <;> simp

/-- `bisect_accuracy_robust`'s hypotheses are satisfiable with a non-monotone `f`: `g = id` on `[0,1]` (monotone,
1-Lipschitz), `f x = x + ε` left of `1/2` and `x − ε` from there on (drops by `2ε` at `1/2`) -/
example (ε : ℝ) (hε : 0 ≤ ε) :
    (∀ x : ℝ, (0:ℝ) ≤ x → x ≤ 1 → |(fun x : ℝ => if x < 1/2 then x + ε else x - ε) x - id x| ≤ ε)
    ∧ (∀ x y : ℝ, (0:ℝ) ≤ x → x ≤ y → y ≤ 1 → (id x : ℝ) ≤ id y)
    ∧ (∀ x y : ℝ, (0:ℝ) ≤ x → x ≤ y → y ≤ 1 → (id y : ℝ) - id x ≤ 1 * (y - x)) := by
  refine ⟨fun x _ _ => ?_, fun x y _ h _ => h, fun x y _ _ _ => by simp⟩
  show |(if x < 1/2 then x + ε else x - ε) - x| ≤ ε
  split_ifs
  · rw [add_sub_cancel_left, abs_of_nonneg hε]
  · rw [sub_sub_cancel_left, abs_neg, abs_of_nonneg hε]

/-- the hypotheses of the even-`c` accuracy theorems are satisfiable: `a=0, b=1, c=4 (k=2), o=1/10`, convex, lies in
the series regime; the theorem then applies at, e.g., `q = 1/2` -/
example : pointMass (realFns [] 0 0) { a := 0, b := 1, c := 4, o := 1/10, convex := true } = false
    ∧ regime (realFns [] 0 0) { a := 0, b := 1, c := 4, o := 1/10, convex := true } = .nothing
    ∧ (1 ≤ 2 ∧ 2 ≤ 50 ∧ ({ a := 0, b := 1, c := 4, o := 1/10, convex := true } : Params ℝ).c = 2 * 2)
    ∧ |cdf (realFns [] 0 0) { a := 0, b := 1, c := 4, o := 1/10, convex := true }
          (ppf (realFns [] 0 0) { a := 0, b := 1, c := 4, o := 1/10, convex := true } (1/2)) - 1/2| ≤ 1e-5 := by
  have hp : pointMass (realFns [] 0 0) { a := 0, b := 1, c := 4, o := 1/10, convex := true } = false := by
    exact pointMass_eq_false (realFns_lawful [] 0 0) _ (.inl (by norm_num))
  have hr : regime (realFns [] 0 0) { a := 0, b := 1, c := 4, o := 1/10, convex := true } = .nothing := by
    rw [regime_nothing_iff (realFns_lawful [] 0 0)]; norm_num
  exact ⟨hp, hr, ⟨by norm_num, by norm_num, rfl⟩,
    cdf_ppf_even_series_partial [] 0 0 _ 2 (by norm_num) (by norm_num) rfl (by norm_num) hp hr (1/2)
      (by norm_num) (by norm_num)⟩

/-- … and a concave setting in the normal regime: `a=0, b=1, c=3, o=20` -/
example : pointMass (realFns [] 0 0) { a := 0, b := 1, c := 3, o := 20, convex := false } = false
    ∧ regime (realFns [] 0 0) { a := 0, b := 1, c := 3, o := 20, convex := false } = .normal := by
  constructor
  · exact pointMass_eq_false (realFns_lawful [] 0 0) _ (.inl (by norm_num))
  · rw [regime_normal_iff (realFns_lawful [] 0 0)]; norm_num

/-- the hypotheses of the odd-`c` theorems are satisfiable: `a=0, b=1, c=9, o=1/10` (either shape) is in the series regime
of the instance that reads the shipped table, the table has a row of key 9, and `cdf_ppf_odd_tolerance_partial` then applies
at, e.g., `q = 1/2`; likewise `c = 5, o = 1/10 < 1/5` and `c = 3, o = 1/100 < 1/50` -/
example (cv : Bool) :
    pointMass (realFns tableR 0 0) { a := 0, b := 1, c := 9, o := 1/10, convex := cv } = false
    ∧ regime (realFns tableR 0 0) { a := 0, b := 1, c := 9, o := 1/10, convex := cv } = .nothing
    ∧ (∃ row ∈ Opda.Gen.tableQ, row.1 = 9)
    ∧ |cdf (realFns tableR 0 0) { a := 0, b := 1, c := 9, o := 1/10, convex := cv }
          (ppf (realFns tableR 0 0) { a := 0, b := 1, c := 9, o := 1/10, convex := cv } (1/2)) - 1/2| ≤ 1e-5
    ∧ |cdf (realFns tableR 0 0) { a := 0, b := 1, c := 5, o := 1/10, convex := cv }
          (ppf (realFns tableR 0 0) { a := 0, b := 1, c := 5, o := 1/10, convex := cv } (1/2)) - 1/2| ≤ 1e-5
    ∧ |cdf (realFns tableR 0 0) { a := 0, b := 1, c := 3, o := 1/100, convex := cv }
          (ppf (realFns tableR 0 0) { a := 0, b := 1, c := 3, o := 1/100, convex := cv } (1/2)) - 1/2| ≤ 1e-5 := by
  have hp : ∀ (c : ℕ) (o : ℝ), 0 < o →
      pointMass (realFns tableR 0 0) { a := 0, b := 1, c := c, o := o, convex := cv } = false := by
    intro c o ho
    exact pointMass_eq_false (realFns_lawful tableR 0 0) _ (.inl (by norm_num))
  have hr9 : regime (realFns tableR 0 0) { a := 0, b := 1, c := 9, o := 1/10, convex := cv } = .nothing := by
    rw [regime_nothing_iff (realFns_lawful tableR 0 0)]; norm_num
  have hr5 : regime (realFns tableR 0 0) { a := 0, b := 1, c := 5, o := 1/10, convex := cv } = .nothing := by
    rw [regime_nothing_iff (realFns_lawful tableR 0 0)]; norm_num
  have hr3 : regime (realFns tableR 0 0) { a := 0, b := 1, c := 3, o := 1/100, convex := cv } = .nothing := by
    rw [regime_nothing_iff (realFns_lawful tableR 0 0)]; norm_num
  refine ⟨hp 9 _ (by norm_num), hr9, shipped_key_present 9 (by simp), ?_, ?_, ?_⟩
  · exact cdf_ppf_odd_tolerance_partial 0 0 _ (by norm_num) (hp 9 _ (by norm_num)) hr9 (Or.inl rfl) (1/2)
      (by norm_num) (by norm_num)
  · exact cdf_ppf_odd_tolerance_partial 0 0 _ (by norm_num) (hp 5 _ (by norm_num)) hr5
      (Or.inr (Or.inl ⟨rfl, by norm_num⟩)) (1/2) (by norm_num) (by norm_num)
  · exact cdf_ppf_odd_tolerance_partial 0 0 _ (by norm_num) (hp 3 _ (by norm_num)) hr3
      (Or.inr (Or.inr ⟨rfl, by norm_num⟩)) (1/2) (by norm_num) (by norm_num)

end Opda.Props.C07

#opda_audit Opda.Props.C07

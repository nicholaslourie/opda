import OpdaProofs.Audit
import OpdaProofs.EmpMore
import OpdaProofs.MaxOfN
import OpdaProofs.EmpAvg
import OpdaProofs.EmpQtc
import OpdaProofs.EmpDrv
import OpdaProofs.EmpAvgExt
/-!
# C04 — empirical tuning curves equal the best-of-n order-statistic definitions

The executable model is `OpdaModel/EmpCurves.lean` (+ `Emp.ppf` for the quantile curve, whose level
`q^(1/n)` resp. `1-(1-q)^(1/n)` is computed by the harness with the specified formula).
Lemma modules: `MaxOfN` (law of the maximum, U-statistic identity), `EmpAvg` (best-of-n weights, V = average, Abel), `EmpQtc`
(quantile duality), `EmpMore` (`ppf` monotone), `EmpDrv` and `EmpAvgExt` (the driver's terms).

What is here, in order: what `F(y)^n` is and that the average-curve weights telescope; the U-statistic weights and curve; the
V-weights as the law of the maximum; the naive curve and its monotonicity; V = average (below); the average curve is
monotone in `n` (abstract powers, `ℕ` and real exponents) and minimise = −maximise(−sample); the quantile curve: which term
it is, monotone in `n`, and its duality away from ties, with the tie counterexample; the driver's `avg` and `v` replies.

**`v_tuning_curve = average_tuning_curve`**: for finite observations `v_eq_average`, `v_eq_average_minimize` (any `pw`) and, on
the driver's own terms, `v_op_eq_avg_op_driver`.  For observations that may be `±∞` (values in `Ext`; lemmas in
`OpdaProofs/EmpDrv.lean`, `EmpAvgExt.lean`) `v_op_eq_avg_op_driver_ext`: the driver sums `weight × value` over `Ext`, skipping exact-zero
weights, and replies with the finite sum when no infinite observation carries weight, with that infinity when one does, and
with `nan` when `+∞` and `−∞` both do (`ext_sum_cases`); the `v` reply and the `avg` reply are the same in every case, for
every non-empty unweighted sample, any bounds, both directions and every `pw` that is non-decreasing on `[0,1]`
(`v_op_eq_avg_op_driver_ext_pow`: the driver's `x ↦ xⁿ`).  Monotonicity is needed once infinite observations are tied
(`v_op_ne_avg_op_nonmonotone_pw`): the sign of each V-weight of a tied block decides the reply, not only their sum.
-/
namespace Opda.Props.C04
open Opda.Emp Opda.Wire Opda.Drv.Emp Finset

/-- **what `F(y)^n` is**: for any weighted sample, the n-th power of the total weight `≤ t` is the probability that
all of `n` independent draws are `≤ t` (finite product measure) — so the law with cdf `F^n` *is* the law of the
maximum of `n` draws. -/
theorem cdf_pow_is_law_of_max {N : ℕ} (y w : Fin N → ℝ) (t : ℝ) (n : ℕ) :
    (∑ j, if y j ≤ t then w j else 0) ^ n
      = ∑ g : Fin n → Fin N, if (∀ i, y (g i) ≤ t) then ∏ i, w (g i) else 0 :=
  Opda.MaxOfN.cdf_pow_eq_prob_all_le y w t n

/-- **average curve, maximise**: the weights `F_j^n − F_{j−1}^n` the model puts on the atoms telescope, i.e. they are
the increments of `F^n` (total mass `pw F_last − pw 0`). -/
theorem average_weights_telescope_max {E α : Type} [Field α] (pw : α → α) (l : List (E × α)) :
    total (bestWeights pw false (withPrevAux 0 l))
      = (match l.getLast? with | some p => pw p.2 | none => pw 0) - pw 0 :=
  bestWeights_total pw 0 l

/-- **average curve, minimise**: the weights are the increments of `1 − (1−F)^n`. -/
theorem average_weights_telescope_min {E α : Type} [Field α] (pw : α → α) (l : List (E × α)) :
    total (bestWeights pw true (withPrevAux 0 l))
      = pw (1 - 0) - (match l.getLast? with | some p => pw (1 - p.2) | none => pw (1 - 0)) := by
  rw [bestWeights_true_eq_false, bestWeights_total, reflPw_true]
  cases l.getLast? <;> simp only [neg_sub_neg]

/-- the executable binomial coefficient is `Nat.choose` -/
theorem model_binomial (n k : ℕ) : chooseFast n k = n.choose k := by
  induction k with
  | zero => simp [chooseFast]
  | succ k ih =>
    have hstep : chooseFast n (k + 1) = chooseFast n k * (n - k) / (k + 1) := by
      unfold chooseFast
      rw [List.range_succ, List.foldl_append]
      rfl
    rw [hstep, ih]
    exact Nat.div_eq_of_eq_mul_left (Nat.succ_pos k) (Nat.choose_succ_right_eq n k).symm

/-- the U-statistic weights of the model are `(C(j+1,m) − C(j,m)) / C(N,m)`, `m = min n N` -/
theorem u_weights_model (n N : ℕ) : uWeights (α := ℝ) n N = (List.range N).map (uWeightAt n N) := by
  unfold uWeights uWeightAt
  simp only [model_binomial]

/-- **U-statistic curve = mean over all subsets of size `min(n,N)` of their best element** (`y` sorted increasingly,
so the best element of a subset is the one with the largest index). -/
theorem u_curve_is_subset_mean (y : ℕ → ℝ) (n N : ℕ) (hn : 1 ≤ n) (hN : 1 ≤ N) :
    ∑ j ∈ range N, uWeightAt n N j * y j
      = (∑ S ∈ powersetCard (min n N) (range N), y (S.sup id)) / ((N.choose (min n N) : ℕ) : ℝ) := by
  obtain ⟨m, hm⟩ : ∃ m, min n N = m + 1 := ⟨min n N - 1, by omega⟩
  rw [hm, ← Opda.UStat.u_stat y m N, Finset.sum_div]
  refine Finset.sum_congr rfl fun j _ => ?_
  unfold uWeightAt
  rw [hm]
  ring

/-- the `k` smallest observations carry V-weight `(k/N)^n`: the V-statistic weights are the law with cdf `F^n`, the same law
the average curve integrates against (`average_weights_telescope_max`).  That the two curves are equal for unweighted
samples (ties included: a tied block's weights telescope) is the theorem `v_eq_average` below. -/
theorem v_weights_are_law_of_max (pw : ℝ → ℝ) (N k : ℕ) (hk : k ≤ N) :
    ((vWeights pw N).take k).sum = pw ((k : ℝ) / (N : ℝ)) - pw 0 := by
  unfold vWeights
  rw [← List.map_take, List.take_range, min_eq_left hk]
  induction k with
  | zero => rw [List.range_zero, List.map_nil, List.sum_nil, Nat.cast_zero, zero_div, sub_self]
  | succ k ih =>
    rw [List.range_succ, List.map_append, List.sum_append, ih (Nat.le_of_succ_le hk), List.map_singleton,
      List.sum_singleton, sub_add_sub_cancel']

/-- the V-statistic weights `(i/N)^n − ((i−1)/N)^n` sum to 1 -/
theorem v_weights_sum_one (pw : ℝ → ℝ) (N : ℕ) (hN : 0 < N) (h0 : pw 0 = 0) (h1 : pw 1 = 1) :
    (vWeights pw N).sum = 1 := by
  have h := v_weights_are_law_of_max pw N N le_rfl
  rwa [List.take_of_length_le (by rw [vWeights, List.length_map, List.length_range]), h0, div_self (by exact_mod_cast hN.ne'), h1, sub_zero] at h

/-- **naive curve** = best of the first `min(n,N)` observations in the given order. -/
theorem naive_is_running_max {E : Type} [LinearOrder E] (n : ℕ) (y : E) (ys : List E) :
    naive false n (y :: ys) = some ((ys.take (n - 1)).foldl max y) :=
  congrArg some (List.foldl_ext _ _ _ fun acc v _ => (if_neg Bool.false_ne_true).trans (max_def_lt acc v).symm)

/-- `naive true` on `E` is by definition `naive false` on the order dual `Eᵒᵈ`, whose `max` is `min`. -/
theorem naive_is_running_min {E : Type} [LinearOrder E] (n : ℕ) (y : E) (ys : List E) :
    naive true n (y :: ys) = some ((ys.take (n - 1)).foldl min y) :=
  naive_is_running_max (E := Eᵒᵈ) n y ys

/-- the naive curve is monotone in `n` in the direction of optimisation -/
theorem naive_monotone_max {E : Type} [LinearOrder E] (y : E) (ys : List E) (n m : ℕ) (h : n ≤ m) :
    (ys.take (n - 1)).foldl max y ≤ (ys.take (m - 1)).foldl max y := by
  obtain ⟨t, ht⟩ := List.take_prefix_take_left (l := ys) (Nat.sub_le_sub_right h 1)
  rw [← ht, List.foldl_append]
  clear ht
  generalize (ys.take (n - 1)).foldl max y = z
  induction t generalizing z with
  | nil => exact le_rfl
  | cons v rest ih => exact (le_max_left z v).trans (ih (max z v))

/-- the minimise case is the maximise case on the order dual. -/
theorem naive_monotone_min {E : Type} [LinearOrder E] (y : E) (ys : List E) (n m : ℕ) (h : n ≤ m) :
    (ys.take (m - 1)).foldl min y ≤ (ys.take (n - 1)).foldl min y :=
  naive_monotone_max (E := Eᵒᵈ) y ys n m h

/-- **quantile curve** is monotone in the level, hence (the level `q^(1/n)` being monotone in `n`) in `n`. -/
theorem quantile_curve_monotone_in_level {E α : Type} [LinearOrder E] [OrderBot E] [OrderTop E]
    [Field α] [LinearOrder α] [IsStrictOrderedRing α]
    (a b : E) (obs : List (E × α)) (hn : NonNeg obs) (htot : 0 < total obs)
    (l l' : α) (h0 : 0 < l) (hll : l ≤ l') (h1 : l' ≤ 1) :
    ppf a (support ⊥ ⊤ a b obs) l ≤ ppf a (support ⊥ ⊤ a b obs) l' := ppf_mono a b obs hn htot l l' h0.le hll h1


section
variable {α : Type} [Field α] [LinearOrder α] [IsStrictOrderedRing α]

/-- **`v_tuning_curve(n) = average_tuning_curve(n)`, maximise**: for every finite sample `ys` (ties allowed, any order),
every sorted arrangement `s` of it (`np.sort`) and *every* function `pw` in the role of `x ↦ xⁿ`,
`Σ_i s[i]·(pw((i+1)/N) − pw(i/N)) = Σ_j v_j·(pw F_j − pw F_{j−1})` over the merged atoms `v_j` of the unweighted sample
(`avgSum l = Σ_{(v,w) ∈ l} v·w`). -/
theorem v_eq_average (pw : α → α) (ys s : List α) (hperm : s.Perm ys) (hsorted : s.Pairwise (· ≤ ·)) :
    avgSum (s.zip (vWeights pw ys.length))
      = avgSum (bestWeights pw false (withPrev (cumN (atoms (ys.map fun y => (y, (1 : α))))))) :=
  v_eq_average_phi id pw false ys s hperm hsorted

/-- **the same for `minimize=True`**: the code pairs the *same* weights with the sample sorted in decreasing order
(`_original_ys_reverse_sorted`), the average curve uses the survival form `(1−F_{j−1})ⁿ − (1−F_j)ⁿ`. -/
theorem v_eq_average_minimize (pw : α → α) (ys s : List α) (hne : ys ≠ []) (hperm : s.Perm ys)
    (hsorted : s.Pairwise (· ≤ ·)) :
    avgSum (s.reverse.zip (vWeights pw ys.length))
      = avgSum (bestWeights pw true (withPrev (cumN (atoms (ys.map fun y => (y, (1 : α))))))) :=
  v_eq_average_phi id pw true ys s hperm hsorted

/-- non-vacuity: a tied sample and its sorted arrangement -/
example : ([1, 3, 3, 7] : List ℚ).Perm [3, 7, 1, 3] ∧ ([1, 3, 3, 7] : List ℚ).Pairwise (· ≤ ·)
    ∧ ([3, 7, 1, 3] : List ℚ) ≠ [] := by
  decide

/-- the merged atoms do not depend on the order of the observations -/
theorem atoms_permutation_invariant {E : Type} [LinearOrder E] {obs obs' : List (E × α)} (h : obs.Perm obs') :
    atoms obs = atoms obs' := atoms_perm h

/-- **average curve, maximise, is monotone in `n`** — abstract powers: `pwm ≤ pwn` on `[0,1]` (true of `x^m ≤ x^n` for
`n ≤ m`), both agreeing at 0 and at 1; every weighted sample with non-negative weights and positive total. -/
theorem average_monotone_in_n (pwn pwm : α → α) (obs : List (α × α)) (hn : NonNeg obs) (htot : 0 < total obs)
    (hle : ∀ x, 0 ≤ x → x ≤ 1 → pwm x ≤ pwn x) (h0 : pwm 0 = pwn 0) (h1 : pwm 1 = pwn 1) :
    avgSum (bestWeights pwn false (withPrev (cumN (atoms obs))))
      ≤ avgSum (bestWeights pwm false (withPrev (cumN (atoms obs)))) := by
  have hnn := nonNeg_atoms obs hn
  have htot' : 0 < total (atoms obs) := by rw [total_atoms]; exact htot
  obtain ⟨f1, f2⟩ := levels_mem_unit_last_eq_one 0 (total (atoms obs)) htot' (atoms obs) hnn le_rfl (zero_add _)
  apply avgSum_mono_of_levels pwn pwm _ (cumN_pairwise _ (sorted_atoms obs))
  · intro p hp; exact hle _ (f1 p hp).1 (f1 p hp).2
  · exact h0
  · intro p hp; rw [f2 p hp]; exact h1

/-- **average curve, minimise**: the reverse inequality. -/
theorem average_monotone_in_n_minimize (pwn pwm : α → α) (obs : List (α × α)) (hn : NonNeg obs)
    (htot : 0 < total obs) (hle : ∀ x, 0 ≤ x → x ≤ 1 → pwm x ≤ pwn x) (h0 : pwm 0 = pwn 0) (h1 : pwm 1 = pwn 1) :
    avgSum (bestWeights pwm true (withPrev (cumN (atoms obs))))
      ≤ avgSum (bestWeights pwn true (withPrev (cumN (atoms obs)))) := by
  rw [bestWeights_true_eq_false, bestWeights_true_eq_false, reflPw_true, reflPw_true]
  apply average_monotone_in_n (fun x => -pwm (1 - x)) (fun x => -pwn (1 - x)) obs hn htot
  · intro x hx0 hx1
    exact neg_le_neg (hle (1 - x) (by linarith) (by linarith))
  · simp only [sub_zero, h1]
  · simp only [sub_self, h0]

/-- the underlying Abel-summation statement on an arbitrary level list `[(v_j, F_j)]` -/
theorem average_monotone_of_levels (pwn pwm : α → α) (l : List (α × α))
    (hs : l.Pairwise fun p q => p.1 ≤ q.1) (hd : ∀ p ∈ l, pwm p.2 ≤ pwn p.2) (h0 : pwm 0 = pwn 0)
    (hlast : ∀ p, l.getLast? = some p → pwm p.2 = pwn p.2) :
    avgSum (bestWeights pwn false (withPrev l)) ≤ avgSum (bestWeights pwm false (withPrev l)) :=
  avgSum_mono_of_levels pwn pwm l hs hd h0 hlast

/-- natural exponents in any ordered field (what the driver evaluates in `ℚ`) -/
theorem average_monotone_in_n_pow (obs : List (α × α)) (hnn : NonNeg obs) (htot : 0 < total obs)
    (n m : ℕ) (hn : 0 < n) (hnm : n ≤ m) :
    avgSum (bestWeights (fun x => x ^ n) false (withPrev (cumN (atoms obs))))
      ≤ avgSum (bestWeights (fun x => x ^ m) false (withPrev (cumN (atoms obs)))) :=
  average_monotone_in_n _ _ obs hnn htot (fun _ hx0 hx1 => pow_le_pow_of_le_one hx0 hx1 hnm)
    (by simp only [zero_pow hn.ne', zero_pow (hn.trans_le hnm).ne']) (by simp only [one_pow])

theorem average_monotone_in_n_pow_minimize (obs : List (α × α)) (hnn : NonNeg obs) (htot : 0 < total obs)
    (n m : ℕ) (hn : 0 < n) (hnm : n ≤ m) :
    avgSum (bestWeights (fun x => x ^ m) true (withPrev (cumN (atoms obs))))
      ≤ avgSum (bestWeights (fun x => x ^ n) true (withPrev (cumN (atoms obs)))) :=
  average_monotone_in_n_minimize _ _ obs hnn htot (fun _ hx0 hx1 => pow_le_pow_of_le_one hx0 hx1 hnm)
    (by simp only [zero_pow hn.ne', zero_pow (hn.trans_le hnm).ne']) (by simp only [one_pow])

/-- **average curve**: the minimise-average of a weighted sample is minus the maximise-average of the negated sample
(same weights), for every `pw`; the only hypothesis is a non-zero total weight. -/
theorem average_min_max_duality (pw : α → α) (obs : List (α × α)) (htot : total obs ≠ 0) :
    avgSum (bestWeights pw true (withPrev (cumN (atoms obs))))
      = -avgSum (bestWeights pw false (withPrev (cumN (atoms (negObs obs))))) := by
  rw [avgSum_eq_phiSum, avgSum_eq_phiSum, bestWeights_cumN, bestWeights_cumN, reflPw_false, total_atoms, total_atoms,
    total_mapObs]
  -- negation reverses the atom list
  rw [negObs, atoms_mapObs_anti _ fun _ _ h => neg_lt_neg h]
  -- weighting the levels commutes with relabelling the values
  rw [mapObs, ← List.map_reverse, ← mapObs, levelWeights_mapObs, phiSum_mapObs]
  -- the reversed list weighted from the other end is the survival form
  rw [levelWeights_reverse pw _ htot _ 0 0 (by rw [total_atoms]; ring), phiSum_reverse]
  exact neg_eq_iff_eq_neg.mp (phiSum_neg id _).symm

/-- the mechanism: negation reverses the merged atom list -/
theorem atoms_of_negated_sample {E E' : Type} [LinearOrder E] [LinearOrder E'] (ν : E → E') (hν : StrictAnti ν)
    (obs : List (E × α)) : atoms (mapObs ν obs) = (mapObs ν (atoms obs)).reverse := atoms_mapObs_anti ν hν obs

/-- **quantile function**: with `ν` an order-reversing involution of the value type (negation), bounds `(ν b, ν a)` for
the mirrored sample, and `0 < l < 1` **not equal to any value of the cdf** (the tie exclusion of the property):
`ppf(l) = ν (ppf_mirrored(1 − l))`. -/
theorem quantile_min_max_duality_level {E : Type} [LinearOrder E] [OrderBot E] [OrderTop E]
    (ν : E → E) (hν : StrictAnti ν) (hinv : ∀ x, ν (ν x) = x)
    (a b : E) (obs : List (E × α)) (hn : NonNeg obs) (htot : 0 < total obs)
    (hbounds : ∀ p ∈ obs, a ≤ p.1 ∧ p.1 ≤ b)
    (l : α) (hl0 : 0 < l) (hl1 : l < 1) (hnotie : ∀ y, cdf (support ⊥ ⊤ a b obs) y ≠ l) :
    ppf a (support ⊥ ⊤ a b obs) l = ν (ppf (ν b) (support ⊥ ⊤ (ν b) (ν a) (mapObs ν obs)) (1 - l)) :=
  ppf_mirror ν hν hinv a b obs hn htot hbounds l hl0 hl1 hnotie

end

/-- the same on the driver's terms (`Ext` values, `ℚ` weights, `Ext.neg`) -/
theorem quantile_min_max_duality_driver (a b : Ext) (obs : List (Ext × ℚ)) (hn : NonNeg obs) (htot : 0 < total obs)
    (hbounds : ∀ p ∈ obs, a ≤ p.1 ∧ p.1 ≤ b)
    (l : ℚ) (hl0 : 0 < l) (hl1 : l < 1) (hnotie : ∀ y, cdf (support Ext.negInf Ext.posInf a b obs) y ≠ l) :
    ppf a (support Ext.negInf Ext.posInf a b obs) l
      = Ext.neg (ppf (Ext.neg b) (support Ext.negInf Ext.posInf (Ext.neg b) (Ext.neg a) (mapObs Ext.neg obs)) (1 - l)) :=
  ppf_mirror (E := Ext) Ext.neg Ext.neg_strictAnti Ext.neg_neg a b obs hn htot hbounds l hl0 hl1 hnotie

/-- **the tie exclusion is necessary**: for the sample `{0, 1}` with bounds `[0,1]` and the level `l = 1/2 = cdf(0)`, every
other hypothesis of the duality holds, yet `ppf(1/2) = 0` while the mirrored side gives `1`. -/
theorem quantile_duality_fails_at_a_tie :
    let obs : List (Ext × ℚ) := [(Ext.fin 0, 1), (Ext.fin 1, 1)]
    NonNeg obs ∧ 0 < total obs ∧ (∀ p ∈ obs, Ext.fin 0 ≤ p.1 ∧ p.1 ≤ Ext.fin 1)
      ∧ cdf (support ⊥ ⊤ (Ext.fin 0) (Ext.fin 1) obs) (Ext.fin 0) = 1 / 2
      ∧ ppf (Ext.fin 0) (support ⊥ ⊤ (Ext.fin 0) (Ext.fin 1) obs) (1 / 2) = Ext.fin 0
      ∧ Ext.neg (ppf (Ext.neg (Ext.fin 1)) (support ⊥ ⊤ (Ext.neg (Ext.fin 1)) (Ext.neg (Ext.fin 0))
          (mapObs Ext.neg obs)) (1 - 1 / 2)) = Ext.fin 1 := by
  unfold NonNeg
  decide +kernel

/-- non-vacuity of the duality: the same sample at the level `1/3` (not a cdf value: the cdf takes the values 0, 1/2, 1). -/
example : ∀ y, cdf (support ⊥ ⊤ (Ext.fin 0) (Ext.fin 1) ([(Ext.fin 0, 1), (Ext.fin 1, 1)] : List (Ext × ℚ))) y ≠ 1 / 3 := by
  intro y
  rw [cdf_support]
  simp only [weightLE, total]
  split_ifs <;> norm_num

section
variable {E : Type} [LinearOrder E] [OrderBot E] [OrderTop E]

/-- **what the quantile tuning curve is**: `ppf` of the constructor model at the level `q^(1/n)` resp. `1 − (1−q)^(1/n)`
(the driver's `emp.ppf` op evaluates `ppf d.a supp level` with the level supplied by the harness from this formula), so
`quantile_curve_monotone_in_level` and the theorems below are statements about the quantile curve. -/
theorem qtc_is_ppf_at_level (a : E) (supp : List (E × ℝ)) (q n : ℝ) :
    qtcMax a supp q n = ppf a supp (q ^ (1 / n)) ∧ qtcMin a supp q n = ppf a supp (1 - (1 - q) ^ (1 / n)) :=
  ⟨rfl, rfl⟩

/-- **maximise quantile curve is non-decreasing in `n`** (real `0 < n ≤ m`, `q ∈ [0,1]`). -/
theorem quantile_curve_monotone_in_n (a b : E) (obs : List (E × ℝ)) (hnn : NonNeg obs) (htot : 0 < total obs)
    (q n m : ℝ) (hq0 : 0 ≤ q) (hq1 : q ≤ 1) (hn : 0 < n) (hnm : n ≤ m) :
    qtcMax a (support ⊥ ⊤ a b obs) q n ≤ qtcMax a (support ⊥ ⊤ a b obs) q m :=
  ppf_mono a b obs hnn htot _ _ (level_mem_unit q n hq0 hq1 hn).1 (level_mono q n m hq0 hq1 hn hnm)
    (level_mem_unit q m hq0 hq1 (lt_of_lt_of_le hn hnm)).2

/-- **minimise quantile curve is non-increasing in `n`**. -/
theorem quantile_curve_monotone_in_n_minimize (a b : E) (obs : List (E × ℝ)) (hnn : NonNeg obs)
    (htot : 0 < total obs) (q n m : ℝ) (hq0 : 0 ≤ q) (hq1 : q ≤ 1) (hn : 0 < n) (hnm : n ≤ m) :
    qtcMin a (support ⊥ ⊤ a b obs) q m ≤ qtcMin a (support ⊥ ⊤ a b obs) q n := by
  have h0 : 0 ≤ 1 - q := sub_nonneg.mpr hq1
  have h1 : 1 - q ≤ 1 := sub_le_self 1 hq0
  exact ppf_mono a b obs hnn htot _ _ (sub_nonneg.mpr (level_mem_unit (1 - q) m h0 h1 (hn.trans_le hnm)).2)
    (sub_le_sub_left (level_mono (1 - q) n m h0 h1 hn hnm) 1) (sub_le_self 1 (level_mem_unit (1 - q) n h0 h1 hn).1)

/-- **`qtc_min(ys, q) = −qtc_max(−ys, 1−q)`** with bounds `(−b, −a)`, for `0 < q < 1`, real `n > 0`, away from exact ties
between the level and a cdf value. -/
theorem quantile_min_max_duality (ν : E → E) (hν : StrictAnti ν) (hinv : ∀ x, ν (ν x) = x)
    (a b : E) (obs : List (E × ℝ)) (hnn : NonNeg obs) (htot : 0 < total obs)
    (hbounds : ∀ p ∈ obs, a ≤ p.1 ∧ p.1 ≤ b) (q n : ℝ) (hq0 : 0 < q) (hq1 : q < 1) (hn : 0 < n)
    (hnotie : ∀ y, cdf (support ⊥ ⊤ a b obs) y ≠ 1 - (1 - q) ^ (1 / n)) :
    qtcMin a (support ⊥ ⊤ a b obs) q n
      = ν (qtcMax (ν b) (support ⊥ ⊤ (ν b) (ν a) (mapObs ν obs)) (1 - q) n) := by
  have hpos : 0 < (1 - q) ^ (1 / n) := Real.rpow_pos_of_pos (by linarith) _
  have hlt : (1 - q) ^ (1 / n) < 1 := Real.rpow_lt_one (by linarith) (by linarith) (by positivity)
  unfold qtcMin qtcMax
  rw [ppf_mirror ν hν hinv a b obs hnn htot hbounds _ (by linarith) (by linarith) hnotie]
  congr 3
  ring

end

/-- non-vacuity of `quantile_min_max_duality`: sample `{0, 1}`, `q = 1/3`, `n = 1` — the level `1/3` is not a cdf value
(the cdf takes the values 0, 1/2, 1). -/
example : ∀ y, cdf (support ⊥ ⊤ (Ext.fin 0) (Ext.fin 1) ([(Ext.fin 0, 1), (Ext.fin 1, 1)] : List (Ext × ℝ))) y
    ≠ 1 - (1 - 1 / 3 : ℝ) ^ ((1 : ℝ) / 1) := by
  intro y
  rw [cdf_support]
  simp only [weightLE, total, div_one, Real.rpow_one]
  split_ifs <;> norm_num

/-- real exponents `0 < n ≤ m`: the average curve is non-decreasing (maximise) / non-increasing (minimise) in `n` -/
theorem average_monotone_in_n_rpow (obs : List (ℝ × ℝ)) (hnn : NonNeg obs) (htot : 0 < total obs)
    (n m : ℝ) (hn : 0 < n) (hnm : n ≤ m) :
    avgSum (bestWeights (fun x => x ^ n) false (withPrev (cumN (atoms obs))))
      ≤ avgSum (bestWeights (fun x => x ^ m) false (withPrev (cumN (atoms obs)))) :=
  average_monotone_in_n _ _ obs hnn htot (fun _ hx0 hx1 => Real.rpow_le_rpow_of_exponent_ge' hx0 hx1 hn.le hnm)
    (by simp only [Real.zero_rpow hn.ne', Real.zero_rpow (hn.trans_le hnm).ne']) (by simp only [Real.one_rpow])

theorem average_monotone_in_n_rpow_minimize (obs : List (ℝ × ℝ)) (hnn : NonNeg obs) (htot : 0 < total obs)
    (n m : ℝ) (hn : 0 < n) (hnm : n ≤ m) :
    avgSum (bestWeights (fun x => x ^ m) true (withPrev (cumN (atoms obs))))
      ≤ avgSum (bestWeights (fun x => x ^ n) true (withPrev (cumN (atoms obs)))) :=
  average_monotone_in_n_minimize _ _ obs hnn htot
    (fun _ hx0 hx1 => Real.rpow_le_rpow_of_exponent_ge' hx0 hx1 hn.le hnm)
    (by simp only [Real.zero_rpow hn.ne', Real.zero_rpow (hn.trans_le hnm).ne']) (by simp only [Real.one_rpow])

/-- non-vacuity of the monotonicity theorems: a tied real sample with a zero weight -/
example : NonNeg ([(2, 1), (2, 1/2), (5, 0), (-1, 3)] : List (ℝ × ℝ))
    ∧ (0:ℝ) < total ([(2, 1), (2, 1/2), (5, 0), (-1, 3)] : List (ℝ × ℝ)) := by
  constructor
  · intro p hp
    simp only [List.mem_cons, List.not_mem_nil, or_false] at hp
    rcases hp with rfl | rfl | rfl | rfl <;> norm_num
  · norm_num [total]

/-- the reply of the driver's `avg` op for a finitely-valued sample is the plain sum `Σ_j v_j·w_j` over the merged atoms
(padding atoms at −∞, a, b, +∞ carry weight exactly 0 and are filtered) — the quantity the theorems above are about. -/
theorem avg_op_driver (pw : ℚ → ℚ) (mn : Bool) (a b : Ext) (obs : List (ℚ × ℚ)) :
    wsum ((bestWeights pw mn (withPrev (cumN (support Ext.negInf Ext.posInf a b (mapObs Ext.fin obs))))).filter
        fun p => p.2 ≠ 0)
      = some (Ext.fin (avgSum (bestWeights pw mn (withPrev (cumN (atoms obs)))))) := avg_driver pw mn a b obs

/-- the reply of the driver's `v` op -/
theorem v_op_driver (ws : List ℚ) (rev : Bool) (ys : List ℚ) :
    wsum (((if rev then (Opda.Band.sort (ys.map Ext.fin)).reverse else Opda.Band.sort (ys.map Ext.fin)).zip ws).filter
        fun p => p.2 ≠ 0)
      = some (Ext.fin (avgSum ((if rev then (Opda.Band.sort ys).reverse else Opda.Band.sort ys).zip ws))) :=
  v_driver ws rev ys

/-- **`v` op = `avg` op on the driver's own terms**, every non-empty finite unweighted sample, any bounds, both `minimize` settings,
every `pw` (the driver uses `x ↦ xⁿ`). -/
theorem v_op_eq_avg_op_driver (pw : ℚ → ℚ) (mn : Bool) (a b : Ext) (ys : List ℚ) (hne : ys ≠ []) :
    wsum (((if mn then (Opda.Band.sort (ys.map Ext.fin)).reverse else Opda.Band.sort (ys.map Ext.fin)).zip
        (vWeights pw ys.length)).filter fun p => p.2 ≠ 0)
      = wsum ((bestWeights pw mn (withPrev (cumN (support Ext.negInf Ext.posInf a b
          ((ys.map Ext.fin).map fun y => (y, (1 : ℚ))))))).filter fun p => p.2 ≠ 0) := by
  have hobs : ((ys.map Ext.fin).map fun y => (y, (1 : ℚ))) = mapObs Ext.fin (ys.map fun y => (y, (1 : ℚ))) := by
    simp [mapObs]
  rw [v_driver, hobs, avg_driver]
  exact congrArg (fun t => some (Ext.fin t)) (v_eq_average_phi id pw mn ys _ (Opda.Band.sort_perm_self ys) (Opda.Band.pairwise_sort ys))

/-- **the driver's sum of `weight × value` over extended values, all weights non-negative**: `nan` (`none`) when `+∞` and
`−∞` both carry weight, that infinity when one does, otherwise `Ext.fin` of the finite sum (`phiSum φ l = Σ φ(value)·weight`,
`phiPos`/`phiNeg` the indicators of `+∞`/`−∞`, `phiFin` the finite value and `0` at `±∞`). -/
theorem ext_sum_cases (l : List (Ext × ℚ)) (hn : NonNeg l) :
    wsum l = if 0 < phiSum phiPos l ∧ 0 < phiSum phiNeg l then none
      else if 0 < phiSum phiPos l then some .posInf
      else if 0 < phiSum phiNeg l then some .negInf
      else some (.fin (phiSum phiFin l)) := wsum_of_nonneg l hn

/-- the list the `avg` op sums (best-of-n weights over the padded support, exact zeros dropped) has non-negative weights, so
`ext_sum_cases` describes the reply: finite / `±∞` / `nan` according to which infinite atoms carry best-of-n weight. -/
theorem avg_op_driver_ext_value (pw : ℚ → ℚ) (hmono : ∀ x y, 0 ≤ x → x ≤ y → y ≤ 1 → pw x ≤ pw y) (mn : Bool)
    (a b : Ext) (ys : List Ext) (hne : ys ≠ []) :
    let bw := (bestWeights pw mn (withPrev (cumN (support Ext.negInf Ext.posInf a b
      (ys.map fun y => (y, (1 : ℚ))))))).filter fun p => p.2 ≠ 0
    NonNeg bw ∧
    wsum bw = if 0 < phiSum phiPos bw ∧ 0 < phiSum phiNeg bw then none
      else if 0 < phiSum phiPos bw then some .posInf
      else if 0 < phiSum phiNeg bw then some .negInf
      else some (.fin (phiSum phiFin bw)) :=
  ⟨nonNeg_avg_terms pw hmono mn a b ys hne, wsum_of_nonneg _ (nonNeg_avg_terms pw hmono mn a b ys hne)⟩

/-- **`v` op = `avg` op on the driver's own terms, observations in `Ext` (`±∞` allowed)**: every non-empty unweighted sample
(ties, any order), any bounds, both `minimize` settings, every `pw` non-decreasing on `[0,1]`: the two replies are equal —
both `some (Ext.fin _)` with the same finite part, both the same infinity, or both `none` (`nan`). -/
theorem v_op_eq_avg_op_driver_ext (pw : ℚ → ℚ) (hmono : ∀ x y, 0 ≤ x → x ≤ y → y ≤ 1 → pw x ≤ pw y) (mn : Bool)
    (a b : Ext) (ys : List Ext) (hne : ys ≠ []) :
    wsum (((if mn then (Opda.Band.sort ys).reverse else Opda.Band.sort ys).zip (vWeights pw ys.length)).filter
        fun p => p.2 ≠ 0)
      = wsum ((bestWeights pw mn (withPrev (cumN (support Ext.negInf Ext.posInf a b
          (ys.map fun y => (y, (1 : ℚ))))))).filter fun p => p.2 ≠ 0) :=
  v_driver_eq_avg_driver_ext pw hmono mn a b ys hne

/-- … for the function the driver uses, `x ↦ xⁿ`, every `n : ℕ` -/
theorem v_op_eq_avg_op_driver_ext_pow (n : ℕ) (mn : Bool) (a b : Ext) (ys : List Ext) (hne : ys ≠ []) :
    wsum (((if mn then (Opda.Band.sort ys).reverse else Opda.Band.sort ys).zip
        (vWeights (fun x : ℚ => x ^ n) ys.length)).filter fun p => p.2 ≠ 0)
      = wsum ((bestWeights (fun x : ℚ => x ^ n) mn (withPrev (cumN (support Ext.negInf Ext.posInf a b
          (ys.map fun y => (y, (1 : ℚ))))))).filter fun p => p.2 ≠ 0) :=
  v_driver_eq_avg_driver_ext _ (fun _ _ hx hxy _ => pow_le_pow_left₀ hx hxy n) mn a b ys hne

/-- the underlying identity, any linearly ordered value type `E`, any functional `φ` of the value, **any** `pw`:
`Σ_i φ(s[i])·vW_i = Σ_j φ(v_j)·(pw F_j − pw F_{j−1})` (maximise), and the decreasing arrangement against the survival form
(minimise) -/
theorem v_eq_average_through_functional {E α : Type} [LinearOrder E] [Field α] [LinearOrder α] [IsStrictOrderedRing α]
    (φ : E → α) (pw : α → α) (ys s : List E) (hne : ys ≠ []) (hperm : s.Perm ys) (hsorted : s.Pairwise (· ≤ ·)) :
    phiSum φ (s.zip (vWeights pw ys.length))
        = phiSum φ (bestWeights pw false (withPrev (cumN (atoms (ys.map fun y => (y, (1 : α)))))))
      ∧ phiSum φ (s.reverse.zip (vWeights pw ys.length))
        = phiSum φ (bestWeights pw true (withPrev (cumN (atoms (ys.map fun y => (y, (1 : α))))))) :=
  ⟨v_eq_average_phi φ pw false ys s hperm hsorted, v_eq_average_phi φ pw true ys s hperm hsorted⟩

/-- **monotonicity of `pw` cannot be dropped** once infinite observations are tied: for `pw` with `pw(1/2) = 1`, `0` elsewhere,
the sample `{+∞, +∞}` has V-weights `+1, −1` on `+∞` (reply `nan`) while its single atom carries weight `0` (finite reply) -/
theorem v_op_ne_avg_op_nonmonotone_pw :
    let pw : ℚ → ℚ := fun x => if x = 1 / 2 then 1 else 0
    wsum (((Opda.Band.sort [Ext.posInf, Ext.posInf]).zip (vWeights pw 2)).filter fun p => p.2 ≠ 0) = none
      ∧ wsum ((bestWeights pw false (withPrev (cumN (support Ext.negInf Ext.posInf Ext.negInf Ext.posInf
          ([Ext.posInf, Ext.posInf].map fun y => (y, (1 : ℚ))))))).filter fun p => p.2 ≠ 0) = some (.fin 0) := by
  constructor <;> decide +kernel

/-- non-vacuity and the three cases on concrete samples (`n = 2`, maximise, bounds `(−∞, +∞)`): `{1, 3}` ↦ finite `5/2`,
`{1, +∞}` ↦ `+∞`, `{−∞, 1, +∞}` ↦ `nan` — the `v` reply, equal to the `avg` reply by `v_op_eq_avg_op_driver_ext_pow` -/
example :
    wsum (((Opda.Band.sort [Ext.fin 1, Ext.fin 3]).zip (vWeights (fun x : ℚ => x ^ 2) 2)).filter fun p => p.2 ≠ 0)
        = some (.fin (5 / 2))
    ∧ wsum (((Opda.Band.sort [Ext.fin 1, Ext.posInf]).zip (vWeights (fun x : ℚ => x ^ 2) 2)).filter fun p => p.2 ≠ 0)
        = some .posInf
    ∧ wsum (((Opda.Band.sort [Ext.negInf, Ext.fin 1, Ext.posInf]).zip (vWeights (fun x : ℚ => x ^ 2) 3)).filter
        fun p => p.2 ≠ 0) = none := by
  refine ⟨?_, ?_, ?_⟩ <;> decide +kernel


end Opda.Props.C04

#opda_audit Opda.Props.C04

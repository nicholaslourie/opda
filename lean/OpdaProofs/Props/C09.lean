import OpdaProofs.Audit
import OpdaProofs.QuadLaw
import OpdaProofs.QuadNoisyDual
import OpdaProofs.NoisyReal
import OpdaProofs.Sample
/-!
# C09 — reflection duality and location–scale equivariance of the parametric families

Property theorems (lemmas in `OpdaProofs/Quad{Law,NoisyDual,Trap}.lean`, `Sample.lean`), preceded by three facts about the real
instance `realFns` in `namespace Opda.Noisy`; for the noisy class the statements about the standard member `std0 d` are derived
here from the general affine ones of `QuadNoisyDual.lean`.

* **Noiseless class**: about the polymorphic model `Opda.Quad.*` (`OpdaModel/Quadratic.lean`) read at `ℝ`;
  the driver evaluates the same constants at `Float`.
* **Noisy class**: about the polymorphic model `Opda.Noisy.{cdf, pdf, ppf}` (`OpdaModel/NoisyFloat.lean`,
  the term the driver evaluates at `Float`) over an **arbitrary linearly ordered field** and an
  **arbitrary** record `F` of transcendental functions — so for any partial-moment machinery (table,
  Chebyshev fallback, recursions): the series regime depends on `(y, a, b, o)` only through `loc`,
  `scale`, `point`, which are identical / negated under the reflection and invariant under the affine
  map (`noisy_args_*`).  What is assumed of `F` is explicit (`Lawful`, `Symm`, `SymmPpf`, `SqrtScale`);
  the real instance satisfies `Lawful`, `Symm`, `SqrtScale` (proved, see the `example`s);
  `Φ⁻¹(1−q) = −Φ⁻¹(q)` is a hypothesis (`SymmPpf`; not proved for the real `PhiInv`).
* **Integrated noisy average curve**: statements about the loop model `Opda.TrapLoop` at every
  refinement level `i` (the stopping index is decided in floating point and may differ by one between
  two instances; the property's 2e-4 allows for that).  The model is the REPAIRED integrand of fix
  `867c66b` (`E = lo + ∫(1−G)`, no `1[y>0]` term): reflection (`navg_reflect`) and location–scale
  equivariance (`navg_affine`) hold at every refinement level with no side condition.  (Before the fix the
  code's integrand was equivariant only when `0` lay outside the integration range — finding F4, repaired.)
* **`sample`** (section `sample`): about the model of the two `sample` methods as functions of the generator's primitives
  (`OpdaModel/Sample.lean`, the terms the driver's `rng.*` ops evaluate at `Float`; that the code *is* this function of the
  primitives drawn from the same seed is compared bitwise by `corr_C13`), read at `ℝ`.  Location–scale: for the same
  uniform `u` (and the same standard normal `z`, `o = s(b−a)`) the draw of `D` is `a + (b−a)` times the draw of `D₀`, for
  every real `u`, `z` (`quad_sample_affine`, `noisy_sample_affine`).  Reflection: the mirrored instance fed with `1 − u`
  and `−z` returns minus the draw (`quad_sample_reflect`, `noisy_sample_reflect`); with the *same* `u` it does not
  (`sample_reflect_same_seed_fails`) — for `sample` the reflection is an identity of laws (`1 − U` uniform, `−Z` normal),
  not of equal-seed draws.  Exact real arithmetic; at `Float`, `1 − (1 − u) ≠ u` and `a + (b−a)x` round (compared through
  the cdf at the property's tolerance).
-/
/- The real instance `realFns` satisfies the symmetry hypotheses of the noisy class (`Φ`, `φ`: `NormalSpec.lean`).
These three stand here, beside the `example`s that use them, and not in `QuadNoisyDual.lean`: that file is kept free of
`RealInst.lean`, whose `Num ℝ` instance changes how statements about the model over `ℝ` elaborate. -/
namespace Opda.Noisy

/-- the real instance is symmetric in `Φ` and `φ` -/
theorem realFns_symm (T : List (ℕ × List (Entry ℝ))) (ninf pinf : ℝ) : Symm (realFns T ninf pinf) :=
  { cdf_neg := Normal.Phi_neg
    pdf_neg := Normal.phiStd_neg }

/-- `Φ⁻¹(1−q) = −Φ⁻¹(q)` (only used by `ppf` in the `normal` regime) is a hypothesis here: for `PhiInv q = sInf {x | q ≤ Φ x}`
(`RealInst.lean`) it is not proved in this development -/
theorem realFns_symmPpf (T : List (ℕ × List (Entry ℝ))) (pinf : ℝ)
    (hppf : ∀ q, PhiInv (1 - q) = - PhiInv q) : SymmPpf (realFns T (-pinf) pinf) :=
  { ppf_compl := hppf
    inf_neg := rfl }

theorem realFns_sqrtScale (T : List (ℕ × List (Entry ℝ))) (ninf pinf : ℝ) : SqrtScale (realFns T ninf pinf) :=
  { sqrt_scale := fun k v hk => by
      show Real.sqrt (k * k * v) = k * Real.sqrt v
      rw [Real.sqrt_mul (mul_self_nonneg k), Real.sqrt_mul_self hk.le] }

end Opda.Noisy

namespace Opda.Props.C09
open Opda

section quad
open Opda.Quad

/-- `D.cdf(y) = 1 − D'.cdf(−y)` -/
theorem quad_cdf_reflect (d : Params ℝ) (hab : d.a < d.b) (y : ℝ) :
    cdf d y = 1 - cdf (reflect d) (-y) := Quad.cdf_reflect d hab y

/-- `D.pdf(y) = D'.pdf(−y)` -/
theorem quad_pdf_reflect (d : Params ℝ) (hab : d.a < d.b) (y : ℝ) :
    pdf d y = pdf (reflect d) (-y) := Quad.pdf_reflect d hab y

/-- `D.ppf(q) = −D'.ppf(1 − q)` -/
theorem quad_ppf_reflect (d : Params ℝ) (q : ℝ) (hq0 : 0 ≤ q) (hq1 : q ≤ 1) :
    ppf d q = - ppf (reflect d) (1 - q) := Quad.ppf_reflect d q hq0 hq1

/-- quantile curve for `minimize = m` at `q` = minus the curve of `D'` for `minimize = ¬m` at `1 − q`
(the side condition says the level `q^{1/n}` resp. `1−(1−q)^{1/n}` is a probability; true for `q∈[0,1]`, `n>0`) -/
theorem quad_qtc_reflect (d : Params ℝ) (nn q : ℝ) (m : Bool)
    (h0 : 0 ≤ level m q nn) (h1 : level m q nn ≤ 1) :
    quantileTuningCurve d nn q (some m) = - quantileTuningCurve (reflect d) nn (1 - q) (some (!m)) := by
  unfold quantileTuningCurve
  rw [Option.getD_some, Option.getD_some, level_compl, ppf_reflect d _ h0 h1]

/-- the same with `minimize = None` on both sides, because `D'.convex = ¬D.convex` -/
theorem quad_qtc_reflect_default (d : Params ℝ) (nn q : ℝ)
    (h0 : 0 ≤ level d.convex q nn) (h1 : level d.convex q nn ≤ 1) :
    quantileTuningCurve d nn q none = - quantileTuningCurve (reflect d) nn (1 - q) none :=
  quad_qtc_reflect d nn q d.convex h0 h1

/-- average curve for `minimize = m` = minus the curve of `D'` for `minimize = ¬m` -/
theorem quad_avg_reflect (d : Params ℝ) (nn : ℝ) (m : Bool) :
    averageTuningCurve d nn (some m) = - averageTuningCurve (reflect d) nn (some (!m)) := by
  unfold averageTuningCurve reflect
  cases d.convex <;> cases m <;>
    simp only [Option.getD_some, Bool.not_true, Bool.not_false, Bool.false_eq_true, if_true, if_false, neg_sub_neg] <;>
    ring

theorem quad_avg_reflect_default (d : Params ℝ) (nn : ℝ) :
    averageTuningCurve d nn none = - averageTuningCurve (reflect d) nn none := quad_avg_reflect d nn d.convex

/-- `D.cdf(a + (b−a) z) = D₀.cdf(z)` -/
theorem quad_cdf_affine (d : Params ℝ) (hab : d.a < d.b) (z : ℝ) :
    cdf d (d.a + (d.b - d.a) * z) = cdf (std0 d) z := by
  rw [cdf_eq_std d hab, cdf_eq_std (std0 d) zero_lt_one, add_sub_cancel_left,
    mul_div_cancel_left₀ _ (sub_pos.mpr hab).ne']
  simp [std0]

/-- `(b−a)·D.pdf(a + (b−a) z) = D₀.pdf(z)` -/
theorem quad_pdf_affine (d : Params ℝ) (hab : d.a < d.b) (z : ℝ) :
    (d.b - d.a) * pdf d (d.a + (d.b - d.a) * z) = pdf (std0 d) z := by
  have hw := sub_pos.mpr hab
  have h0 : (d.b - d.a) * z < 0 ↔ z < 0 := by simp [mul_neg_iff, hw, hw.le.not_gt]
  rw [pdf_eq d hab, pdf_eq (std0 d) zero_lt_one, add_sub_cancel_left, mul_div_cancel_left₀ _ hw.ne',
    show d.b - (d.a + (d.b - d.a) * z) = (d.b - d.a) * (1 - z) by ring, mul_div_cancel_left₀ _ hw.ne']
  -- the two guards `a + (b−a) z < a`, `b < a + (b−a) z` become `z < 0`, `1 < z`; inside, the factor `b − a` cancels
  simp only [add_lt_iff_neg_left, h0, ← sub_lt_iff_lt_add', lt_mul_iff_one_lt_right hw, mul_ite, mul_zero,
    mul_div_cancel₀ _ hw.ne', std0, sub_zero, div_one]

/-- `D.ppf = a + (b−a)·D₀.ppf` (so `sample`, which is `ppf` of the same uniform draw, too) -/
theorem quad_ppf_affine (d : Params ℝ) (q : ℝ) : ppf d q = d.a + (d.b - d.a) * ppf (std0 d) q :=
  Quad.ppf_affine d q

theorem quad_qtc_affine (d : Params ℝ) (nn q : ℝ) (mn : Option Bool) :
    quantileTuningCurve d nn q mn = d.a + (d.b - d.a) * quantileTuningCurve (std0 d) nn q mn := by
  unfold quantileTuningCurve
  rw [ppf_affine]
  rfl

theorem quad_avg_affine (d : Params ℝ) (nn : ℝ) (mn : Option Bool) :
    averageTuningCurve d nn mn = d.a + (d.b - d.a) * averageTuningCurve (std0 d) nn mn := by
  unfold averageTuningCurve std0
  cases d.convex <;> cases (mn.getD _) <;> simp only [Bool.false_eq_true, if_true, if_false] <;> ring

end quad

section noisy
open Opda.Noisy
variable {α : Type} [Field α] [LinearOrder α] [IsStrictOrderedRing α] {F : Fns α}

/-- the three quantities the series regime is computed from: `loc` and `scale` identical, `point` negated,
for `D` at `y` and `D'` at `−y` — hence the identities below hold for **any** partial-moment function -/
theorem noisy_args_reflect (d : Params α) (y : α) :
    locOf (reflect d) (-y) = locOf d y ∧ scaleOf (reflect d) = scaleOf d
      ∧ pointOf (reflect d) (-y) = - pointOf d y :=
  ⟨locOf_reflect d y, scaleOf_reflect d, pointOf_reflect d y⟩

/-- … and invariant under `y = a + (b−a) z`, `o = s (b−a)` -/
theorem noisy_args_affine (d : Params α) (hab : d.a < d.b) (ho : d.o ≠ 0) (z : α) :
    locOf d (d.a + (d.b - d.a) * z) = locOf (std0 d) z ∧ scaleOf d = scaleOf (std0 d)
      ∧ pointOf d (d.a + (d.b - d.a) * z) = pointOf (std0 d) z := by
  obtain ⟨hB, -, e⟩ := aff_std0 d hab
  have h1 := locOf_aff d.a hB.ne' (std0 d) z
  have h2 := scaleOf_aff d.a hB.ne' (std0 d)
  have h3 := pointOf_aff d.a hB.ne' (std0 d) z
  rw [e] at h1 h2 h3
  exact ⟨h1, h2, h3⟩

/-- `D.cdf(y) = 1 − D'.cdf(−y)` in every regime (noiseless, series, normal) -/
theorem noisy_cdf_reflect (hF : Lawful F) (hS : Symm F) (d : Params α) (hab : d.a < d.b) (y : α) :
    cdf F d y = 1 - cdf F (reflect d) (-y) := Noisy.cdf_reflect hF hS d hab y

/-- `D.pdf(y) = D'.pdf(−y)` -/
theorem noisy_pdf_reflect (hF : Lawful F) (hS : Symm F) (d : Params α) (hab : d.a < d.b) (y : α) :
    pdf F d y = pdf F (reflect d) (-y) := by
  obtain ⟨hp, hp', hr⟩ := reflect_same_branch hF d hab
  cases h : regime F d
  · rw [pdf_noiseless d y hp h, pdf_noiseless (reflect d) (-y) hp' (hr _ h)]
    -- the guard "outside the support" of `D'` at `−y` is that of `D` at `y` with its two sides exchanged
    have hg : ∀ a b : α, (-y < -b ∨ -a < -y) ↔ (y < a ∨ b < y) := fun a b => by
      rw [neg_lt_neg_iff, neg_lt_neg_iff, or_comm]
    rcases d with ⟨a, b, c, o, _ | _⟩ <;>
      simp only [reflect, neg_sub_neg, hg, Bool.not_true, Bool.not_false, if_true, if_false, Bool.false_eq_true]
  · rw [pdf_nothing d y hp h, pdf_nothing (reflect d) (-y) hp' (hr _ h), pdfRaw_reflect]
  · rw [pdf_normal d y hp h, pdf_normal (reflect d) (-y) hp' (hr _ h), meanOf_reflect hF, varOf_reflect,
      neg_sub_neg, ← neg_sub, neg_div, hS.pdf_neg]

/-- `D.ppf(q) = −D'.ppf(1 − q)`: the 30-step bisection grids are mirror images unless a midpoint's cdf
value ties with `q` exactly (the code's `<` then moves `hi` in both instances) -/
theorem noisy_ppf_reflect (hF : Lawful F) (hS : Symm F) (hP : SymmPpf F) (d : Params α) (hab : d.a < d.b)
    (q : α) (hq0 : 0 ≤ q) (hq1 : q ≤ 1)
    (hnt : NoTie (cdf F d) (midpoint F) q 30 (d.a - F.n 6 * d.o, d.b + F.n 6 * d.o)) :
    ppf F d q = - ppf F (reflect d) (1 - q) := Noisy.ppf_reflect hF hS hP d hab q hq0 hq1 hnt

theorem noisy_qtc_reflect (hF : Lawful F) (hS : Symm F) (hP : SymmPpf F) (d : Params α) (hab : d.a < d.b)
    (nn q : α) (m : Bool) (h0 : 0 ≤ level F m q nn) (h1 : level F m q nn ≤ 1)
    (hnt : NoTie (cdf F d) (midpoint F) (level F m q nn) 30 (d.a - F.n 6 * d.o, d.b + F.n 6 * d.o)) :
    quantileTuningCurve F d nn q (some m) = - quantileTuningCurve F (reflect d) nn (1 - q) (some (!m)) :=
  Noisy.qtc_reflect hF hS hP d hab nn q m h0 h1 hnt

theorem noisy_qtc_reflect_default (hF : Lawful F) (hS : Symm F) (hP : SymmPpf F) (d : Params α)
    (hab : d.a < d.b) (nn q : α) (h0 : 0 ≤ level F d.convex q nn) (h1 : level F d.convex q nn ≤ 1)
    (hnt : NoTie (cdf F d) (midpoint F) (level F d.convex q nn) 30 (d.a - F.n 6 * d.o, d.b + F.n 6 * d.o)) :
    quantileTuningCurve F d nn q none = - quantileTuningCurve F (reflect d) nn (1 - q) none := by
  have := Noisy.qtc_reflect hF hS hP d hab nn q d.convex h0 h1 hnt
  unfold quantileTuningCurve at *
  simpa [reflect] using this

/-- `D.cdf(a + (b−a) z) = D₀.cdf(z)`, `D₀ = (0, 1, c, o/(b−a))` -/
theorem noisy_cdf_affine (hF : Lawful F) (hQ : SqrtScale F) (d : Params α) (hab : d.a < d.b) (z : α) :
    cdf F d (d.a + (d.b - d.a) * z) = cdf F (std0 d) z := by
  obtain ⟨hB, h01, e⟩ := aff_std0 d hab
  have := cdf_aff d.a hF hQ hB (std0 d) h01 z
  rwa [e] at this

/-- `(b−a)·D.pdf(a + (b−a) z) = D₀.pdf(z)` -/
theorem noisy_pdf_affine (hF : Lawful F) (hQ : SqrtScale F) (d : Params α) (hab : d.a < d.b) (z : α) :
    (d.b - d.a) * pdf F d (d.a + (d.b - d.a) * z) = pdf F (std0 d) z := by
  obtain ⟨hB, h01, e⟩ := aff_std0 d hab
  have := pdf_aff d.a hF hQ hB (std0 d) h01 z
  rwa [e] at this

/-- `D.ppf(q) = a + (b−a)·D₀.ppf(q)` for `q ∈ (0,1)`: the bisection grids are affine images and take the
same decisions (no tie condition needed) -/
theorem noisy_ppf_affine (hF : Lawful F) (hQ : SqrtScale F) (d : Params α) (hab : d.a < d.b) (q : α)
    (hq0 : 0 < q) (hq1 : q < 1) : ppf F d q = d.a + (d.b - d.a) * ppf F (std0 d) q := by
  obtain ⟨hB, h01, e⟩ := aff_std0 d hab
  have := ppf_aff d.a hF hQ hB (std0 d) h01 q hq0 hq1
  rwa [e] at this

theorem noisy_qtc_affine (hF : Lawful F) (hQ : SqrtScale F) (d : Params α) (hab : d.a < d.b) (nn q : α)
    (mn : Option Bool) (h0 : 0 < level F (mn.getD d.convex) q nn) (h1 : level F (mn.getD d.convex) q nn < 1) :
    quantileTuningCurve F d nn q mn = d.a + (d.b - d.a) * quantileTuningCurve F (std0 d) nn q mn := by
  unfold quantileTuningCurve
  rw [noisy_ppf_affine hF hQ d hab _ h0 h1]
  rfl

end noisy

section navg
open Opda.Noisy Opda.TrapLoop

/-- reflection of the integrated curve, at every refinement level, no side condition (the legacy integrand
with `1[y>0]` needed "no grid point is exactly 0") -/
theorem navg_reflect {F : Fns ℝ} (hF : Lawful F) (hS : Symm F) (d : Params ℝ) (hab : d.a < d.b) (m : Bool)
    (nn : ℝ) (i : ℕ) :
    valueRep F.n F.pow (cdf F (reflect d)) (!m) nn (intLo F (reflect d)) (intHi F (reflect d)) i
      = - valueRep F.n F.pow (cdf F d) m nn (intLo F d) (intHi F d) i := by
  rw [intLo_reflect, intHi_reflect, n_eq_cast hF]
  apply valueRep_reflect
  intro x; rw [cdf_reflect hF hS d hab x]; ring

/-- location–scale equivariance of the integrated curve, at every refinement level -/
theorem navg_affine {F : Fns ℝ} (hF : Lawful F) (hQ : SqrtScale F) (d : Params ℝ) (hab : d.a < d.b)
    (m : Bool) (nn : ℝ) (i : ℕ) :
    valueRep F.n F.pow (cdf F d) m nn (intLo F d) (intHi F d) i
      = d.a + (d.b - d.a) * valueRep F.n F.pow (cdf F (std0 d)) m nn (intLo F (std0 d)) (intHi F (std0 d)) i := by
  obtain ⟨hB, h01, e⟩ := aff_std0 d hab
  have := avgRep_aff hF hQ d.a hB (std0 d) h01 m nn i
  rwa [e] at this

/-- `valueRep … i` is what the model's `averageTuningCurve` returns when its loop stops at round `i` -/
theorem navg_value_is_valueRep {F : Fns ℝ} (d : Params ℝ) (ns : List ℝ) (mn : Option Bool) (atol : Option ℝ)
    (r : ℕ × List ℝ × List ℝ) (h : avgRun F d ns mn atol = some r)
    (hT : r.2.1 = ns.map fun nn => (iter F.n (gRep F.n F.pow (cdf F d) (mn.getD d.convex) nn) (intLo F d) (intHi F d) r.1).2) :
    averageTuningCurve F d ns mn atol
      = some (ns.map fun nn => valueRep F.n F.pow (cdf F d) (mn.getD d.convex) nn (intLo F d) (intHi F d) r.1) := by
  unfold averageTuningCurve
  rw [h, Option.map_some, hT, List.map_map]
  rfl

end navg

section sample
open Opda.Sample

/-- noiseless class, **same seed** (the same uniform `u`, every real `u`): `D.sample = a + (b−a)·D₀.sample`,
`D₀ = (0, 1, c, convex)` -/
theorem quad_sample_affine (d : Quad.Params ℝ) (u : ℝ) :
    quadSample d u = d.a + (d.b - d.a) * quadSample (Quad.std0 d) u := quad_ppf_affine d u

/-- noisy class, **same seed** (the same uniform `u` and the same standard normal `z`, every real `u`, `z`), noise
`o = s·(b−a)`: `D.sample = a + (b−a)·D₀.sample`, `D₀ = (0, 1, c, s, convex)` -/
theorem noisy_sample_affine (d : Quad.Params ℝ) (s u z : ℝ) :
    noisySample d (s * (d.b - d.a)) u z = d.a + (d.b - d.a) * noisySample (Quad.std0 d) s u z := by
  rw [noisySample_eq, noisySample_eq, noisyQuadPart_affine]; ring

/-- the same with `D₀`'s noise written `o/(b−a)` (`a < b`) -/
theorem noisy_sample_affine_scale (d : Quad.Params ℝ) (hab : d.a < d.b) (o u z : ℝ) :
    noisySample d o u z = d.a + (d.b - d.a) * noisySample (Quad.std0 d) (o / (d.b - d.a)) u z := by
  have hw : d.b - d.a ≠ 0 := (sub_pos.mpr hab).ne'
  have h := noisy_sample_affine d (o / (d.b - d.a)) u z
  rwa [div_mul_cancel₀ o hw] at h

/-- noiseless class: the mirrored instance `D' = (−b, −a, c, ¬convex)` at the **complementary uniform** `1 − u` returns minus
the draw, every real `u`: `ppf` clips `u` to `[0,1]`, and `clip(1−u) = 1 − clip(u)` -/
theorem quad_sample_reflect (d : Quad.Params ℝ) (u : ℝ) :
    quadSample d u = - quadSample (Quad.reflect d) (1 - u) := Quad.ppf_reflect_all d u

/-- noisy class: the mirrored instance (same `o`) at the complementary uniform `1 − u` and the **negated normal** `−z` returns
minus the draw, every real `u`, `z` -/
theorem noisy_sample_reflect (d : Quad.Params ℝ) (o u z : ℝ) :
    noisySample d o u z = - noisySample (Quad.reflect d) o (1 - u) (-z) := by
  rw [noisySample_eq, noisySample_eq, noisyQuadPart_reflect]; ring

/-- **not** with the same uniform: `Q(0,1,1,convex)` at `u = 1/4` draws `1/16`, its mirror image draws `−9/16 ≠ −1/16`; so
"`D.sample(seed) = −D'.sample(seed)`" is false, and the reflection clause for `sample` holds in law only -/
theorem sample_reflect_same_seed_fails :
    quadSample ({ a := 0, b := 1, c := 1, convex := true } : Quad.Params ℝ) (1/4)
      ≠ - quadSample (Quad.reflect ({ a := 0, b := 1, c := 1, convex := true } : Quad.Params ℝ)) (1/4) := by
  have hc : Num.clip ((1:ℝ)/4) 0 1 = 1/4 := Quad.clip_of_mem _ _ _ (by norm_num) (by norm_num)
  simp only [quadSample, Quad.ppf_eq, Quad.reflect, hc, Bool.not_true, Bool.false_eq_true, if_false, if_true, Nat.cast_one,
    div_one, Real.rpow_two]
  norm_num

end sample

example (T : List (ℕ × List (Noisy.Entry ℝ))) (ninf pinf : ℝ) :
    Noisy.Lawful (Noisy.realFns T ninf pinf) ∧ Noisy.Symm (Noisy.realFns T ninf pinf)
      ∧ Noisy.SqrtScale (Noisy.realFns T ninf pinf) :=
  ⟨Noisy.realFns_lawful T ninf pinf, Noisy.realFns_symm T ninf pinf, Noisy.realFns_sqrtScale T ninf pinf⟩

/-- so e.g. `D.cdf(y) = 1 − D'.cdf(−y)` holds for the real reading of the noisy model with `Φ` the
Gaussian distribution function, whatever the table -/
example (T : List (ℕ × List (Noisy.Entry ℝ))) (d : Noisy.Params ℝ) (hab : d.a < d.b) (y : ℝ) :
    Noisy.cdf (Noisy.realFns T 0 0) d y = 1 - Noisy.cdf (Noisy.realFns T 0 0) (Noisy.reflect d) (-y) :=
  noisy_cdf_reflect (Noisy.realFns_lawful T 0 0) (Noisy.realFns_symm T 0 0) d hab y

end Opda.Props.C09

#opda_audit Opda.Props.C09

import OpdaProofs.Audit
import OpdaProofs.ExtInst
import OpdaProofs.Fit
import OpdaProofs.FitLoss
import OpdaProofs.FitPlan
import OpdaProofs.FitInv
/-!
# C10 — `fit` optimises the documented censored, tie-aware maximum-spacing objective

The property theorems of C10.  The lemmas live in `OpdaProofs/Fit.lean`, `FitLoss.lean`, `FitPlan.lean`,
`FitInv.lean`; the short proofs that have no other user stand here, under their statements (the side flags,
reading a vector back from its box, the initial candidates in the box).  The theorems are about the executable model of `fit`'s *bookkeeping* (`OpdaModel/Fit.lean`, `FitPlan.lean`); scipy's
optimiser, `np.round`, the factors `w`, `v` and the distribution's `cdf` are parameters of the model.  The
model is tied to the code on every run by `harness/corr_C10.py`.

Not proved (compared only): the values of `cdf`, IEEE rounding of the box arithmetic and of the loss, and
the last clause of the property (returned objective no worse than at the generating parameters).
-/
namespace Opda.Props.C10
open Opda.Fit Opda.Wire

section buckets
variable {E : Type} [LinearOrder E]

/-- **T1.** Under side conditions (A) `edge_lo` strictly below every other point and (B) `limit_upper <
edge_hi` when observations are censored above, the code's positional fix-ups (`ks[1:]`, `ks[0] = n_lower`,
`ks[-2] -= 1`, `ks[-1] = n_upper + 1`) never index out of range and yield exactly the documented counts
of the buckets between consecutive distinct edges, for every sample with ties, every limits pattern and
either kind of left-most bucket. -/
theorem buckets_model_eq_spec (closedLeft : Bool) (edgeLo : E) (ll : Option E) (obs : List E) (lu : Option E)
    (edgeHi : E) (nLower nUpper : Nat) (H : BucketHyps edgeLo ll obs lu edgeHi) :
    ksModel? edgeLo ll obs lu edgeHi nLower nUpper
      = some (ksSpec closedLeft ll obs lu edgeHi nLower nUpper (zsModel edgeLo ll obs lu edgeHi)) :=
  Opda.Fit.buckets_model_eq_spec closedLeft edgeLo ll obs lu edgeHi nLower nUpper H

/-- **T1 for the term the driver evaluates** (values in `Ext`). -/
theorem buckets_driver (closedLeft : Bool) (edgeLo : Ext) (ll : Option Ext) (obs : List Ext) (lu : Option Ext)
    (edgeHi : Ext) (nLower nUpper : Nat) (H : BucketHyps edgeLo ll obs lu edgeHi) :
    ksModel? edgeLo ll obs lu edgeHi nLower nUpper
      = some (ksSpec closedLeft ll obs lu edgeHi nLower nUpper (zsModel edgeLo ll obs lu edgeHi)) :=
  Opda.Fit.buckets_model_eq_spec (E := Ext) closedLeft edgeLo ll obs lu edgeHi nLower nUpper H

/-- the hypotheses of T1 are exactly what the driver's `A=1 B=1` flags report (plus the data facts) -/
theorem side_flags_of_hyps (edgeLo : E) (ll : Option E) (obs : List E) (lu : Option E) (edgeHi : E)
    (H : BucketHyps edgeLo ll obs lu edgeHi) :
    sideA edgeLo ll obs lu edgeHi = true ∧ sideB lu edgeHi = true := by
  refine ⟨by simpa only [sideA, List.all_eq_true, decide_eq_true_eq] using H.sideA, ?_⟩
  cases hlu : lu with
  | none => rfl
  | some u => simpa [sideB] using H.sideB u hlu

/-- the bucket edges are the strictly increasing list of the distinct points -/
theorem edges_sorted_distinct (edgeLo : E) (ll : Option E) (obs : List E) (lu : Option E) (edgeHi : E) :
    (zsModel edgeLo ll obs lu edgeHi).Pairwise (· < ·) ∧
      ∀ z, z ∈ zsModel edgeLo ll obs lu edgeHi ↔ z ∈ pointValues edgeLo ll obs lu edgeHi :=
  ⟨(zsModel_spec edgeLo ll obs lu edgeHi).1, (zsModel_spec edgeLo ll obs lu edgeHi).2.1⟩

/-- **T2.** Under (A) and (B) the counts sum to `n_lower + #observed + n_upper + 1 = n + 1`. -/
theorem sum_ks_eq_n_plus_one (edgeLo : E) (ll : Option E) (obs : List E) (lu : Option E)
    (edgeHi : E) (nLower nUpper : Nat) (H : BucketHyps edgeLo ll obs lu edgeHi) :
    ∃ ks, ksModel? edgeLo ll obs lu edgeHi nLower nUpper = some ks ∧
      sumNat ks = (if ll.isSome then nLower else 0) + obs.length + (if lu.isSome then nUpper else 0) + 1 :=
  sum_ks_eq edgeLo ll obs lu edgeHi nLower nUpper H

end buckets

-- non-vacuity and necessity of the side conditions: the values are scaled to ℕ

/-- the hypotheses of T1 are satisfiable: two-sided censoring, ties, an observation on the upper limit -/
example : BucketHyps (E := Nat) 0 (some 2) [3, 3, 5, 7] (some 7) 9 where
  sideA := by decide
  sideB := by intro u h; cases h; decide
  obs_gt_ll := by intro l h; cases h; decide
  obs_le_lu := by intro u h; cases h; decide
  ll_lt_lu := by intro l u h h'; cases h; cases h'; decide
  ll_lt_hi := by intro l h; cases h; decide
  obs_le_hi := by decide

/-- **(A) is necessary — F6a (a defect of the code before `55c25d1`, repaired in /repo).** `fit([1,1,2,3],
constraints={"a": 1.})`: the positional fix-ups modelled here drop the observations equal to the lower support edge
(`ks = ks[1:]`); the documented closed left-most bucket counts them.  Outside (A), (B) the model is not the
reference: the check judges the code against the documented counts (`ksSpec`), which the repaired code meets. -/
theorem sideA_necessary_F6a :
    sideA (E := Nat) 1 none [1, 1, 2, 3] none 5 = false ∧
    ksModel? (E := Nat) 1 none [1, 1, 2, 3] none 5 0 0 = some [1, 1, 1] ∧
    ksSpec (E := Nat) true none [1, 1, 2, 3] none 5 0 0 (zsModel (E := Nat) 1 none [1, 1, 2, 3] none 5) = [3, 1, 1] ∧
    sumNat [1, 1, 1] ≠ 4 + 1 := by decide

/-- **(A) is necessary — finding F6b.** `a` pinned to the lower limit with left-censored data: `ks[0] =
n_lower` overwrites the count of an *observed* bucket (and the censored observation itself lies where every
candidate has probability zero: the documented counts sum to `n`, not `n + 1`). -/
theorem sideA_necessary_F6b :
    sideA (E := Nat) 2 (some 2) [3, 3, 4] none 6 = false ∧
    ksModel? (E := Nat) 2 (some 2) [3, 3, 4] none 6 1 0 = some [1, 1, 1] ∧
    ksSpec (E := Nat) true (some 2) [3, 3, 4] none 6 1 0 (zsModel (E := Nat) 2 (some 2) [3, 3, 4] none 6) = [2, 1, 1] ∧
    sumNat [1, 1, 1] ≠ 4 + 1 := by decide

/-- **(B) is necessary — finding F6c.** `b` pinned to the upper limit with right-censored data: `ks[-2] -= 1`
hits an *observed* bucket (the observation 9 disappears) and `ks[-1] = n_upper + 1` overwrites another. -/
theorem sideB_necessary_F6c :
    sideB (E := Nat) (some 10) 10 = false ∧
    ksModel? (E := Nat) 0 none [1, 4, 5, 7, 9] (some 10) 10 0 1 = some [1, 1, 1, 1, 0, 2] ∧
    ksSpec (E := Nat) true none [1, 4, 5, 7, 9] (some 10) 10 0 1
      (zsModel (E := Nat) 0 none [1, 4, 5, 7, 9] (some 10) 10) = [1, 1, 1, 1, 1, 1] := by decide

/-- **The data fact `limit_lower < observation` (after rounding) is necessary — F6d (defect of the code before
`55c25d1`, repaired in /repo; as for F6a the check judges the code against `ksSpec` there).** An
observation inside the limits that `np.round` moves onto the lower limit (float32 data are rounded to 3
decimals) is merged with the limit point and then overwritten by `ks[0] = n_lower`: it vanishes instead
of being counted with the censored ones, as the code comment intends. (A) and (B) hold here. -/
theorem rounding_onto_lower_limit_F6d :
    sideA (E := Nat) 0 (some 2) [2, 3] none 9 = true ∧ sideB (E := Nat) none 9 = true ∧
    ksModel? (E := Nat) 0 (some 2) [2, 3] none 9 1 0 = some [1, 1, 1] ∧
    ksSpec (E := Nat) true (some 2) [2, 3] none 9 1 0 (zsModel (E := Nat) 0 (some 2) [2, 3] none 9) = [2, 1, 1] := by
  decide

/-- **(B) is necessary — F2.** With fewer than two buckets `ks[-2]` does not exist:
`fit([1,1,1,1,1,2], limits=(-inf, 1))` raised `IndexError` up to /repo commit `b238e9d`; from that commit on the
code raises `OptimizationError` exactly where the model says the fix-ups are undefined. -/
theorem sideB_necessary_F2 :
    sideB (E := Nat) (some 1) 1 = false ∧ ksModel? (E := Nat) 1 none [1, 1, 1, 1, 1] (some 1) 1 0 1 = none := by
  decide

/-- **T3.** `loss θ = −(n+1)⁻¹ Σ Nᵢ log ΔFᵢ(θ) + const(ks, n)` whenever every bucket with a positive count
has positive mass (the only case in which the loss is finite). -/
theorem loss_eq_grouped_loglik (n : Nat) (ks : List Nat) (ps : List ℝ)
    (hlen : (diffs ps).length = ks.length)
    (hpos : ∀ p ∈ ks.zip (diffs ps), 0 < p.1 → 0 < p.2) :
    loss (fun k : Nat => (k : ℝ)) Real.log n ks ps
      = -(1 / ((n : ℝ) + 1)) * groupedLogLik ks (diffs ps) + lossConst n ks :=
  loss_eq_grouped_loglik_ps n ks ps hlen hpos

/-- the loss is the Kullback–Leibler sum `Σ qᵢ log(qᵢ / ΔFᵢ)` with `qᵢ = Nᵢ/(n+1)` -/
theorem loss_eq_kl (n : Nat) (ks : List Nat) (ps : List ℝ) :
    loss (fun k : Nat => (k : ℝ)) Real.log n ks ps = klSum n ks (diffs ps) :=
  Opda.Fit.loss_eq_kl n ks (diffs ps)

/-- **Gibbs' inequality.** With `Σ ks = n + 1` and monotone cdf values in `[0,1]` the loss is `≥ 0`. -/
theorem loss_nonneg (n : Nat) (ks : List Nat) (ps : List ℝ) (hlen : ps.length = ks.length + 1)
    (hsum : ks.sum = n + 1) (hmono : ps.Pairwise (· ≤ ·)) (h01 : ∀ p ∈ ps, 0 ≤ p ∧ p ≤ 1)
    (hpos : ∀ p ∈ ks.zip (diffs ps), 0 < p.1 → 0 < p.2) :
    0 ≤ loss (fun k : Nat => (k : ℝ)) Real.log n ks ps := loss_nonneg_ps n ks ps hlen hsum hmono h01 hpos

/-- … with equality iff every bucket has exactly its empirical mass `Nᵢ/(n+1)`. -/
theorem loss_eq_zero_iff (n : Nat) (ks : List Nat) (a : ℝ) (l : List ℝ)
    (hlen : l.length = ks.length) (hsum : ks.sum = n + 1) (hmono : (a :: l).Pairwise (· ≤ ·))
    (hpos : ∀ p ∈ ks.zip (diffs (a :: l)), 0 < p.1 → 0 < p.2) (hends : l.getLastD a - a = 1) :
    loss (fun k : Nat => (k : ℝ)) Real.log n ks (a :: l) = 0
      ↔ ∀ p ∈ ks.zip (diffs (a :: l)), p.2 = (p.1 : ℝ) / ((n : ℝ) + 1) :=
  loss_eq_zero_iff_ps n ks a l hlen hsum hmono hpos hends

/-- the noisy class sorts the cdf values first; on a monotone cdf that is the identity -/
theorem loss_sort_is_identity_on_monotone (n : Nat) (ks : List Nat) (ps : List ℝ) (h : ps.Pairwise (· ≤ ·)) :
    loss (fun k : Nat => (k : ℝ)) Real.log n ks (sortList ps) = loss (fun k : Nat => (k : ℝ)) Real.log n ks ps :=
  loss_sortList_of_sorted n ks ps h

example : loss (fun k : Nat => (k : ℝ)) Real.log 3 [1, 1, 2] [0, 1/4, 1/2, 1] = 0 := by
  refine (loss_eq_zero_iff 3 [1, 1, 2] 0 [1/4, 1/2, 1] rfl rfl pairwise_quarters ?_ (by norm_num)).mpr ?_ <;>
    simp only [diffs, List.zip_cons_cons, List.zip_nil_right, List.forall_mem_cons] <;> norm_num

/-- **T4.** The coordinate written as parameter `p` is read back as `p`, a fixed parameter as its value. -/
theorem pack_unpack {β : Type} (fr : Free) (fixed p : Params β) :
    unpack fr fixed (packG fr p.a p.b p.c p.o)
      = some ⟨if fr.a then p.a else fixed.a, if fr.b then p.b else fixed.b,
              if fr.c then p.c else fixed.c, if fr.o then p.o else fixed.o⟩ := unpack_pack fr fixed p

/-- **T4.** Any vector inside the box handed to the optimiser is read back without `IndexError`, each
coordinate as the parameter whose box constrained it (in `loss` and in `best_parameters` alike: both use
`unpack`). -/
theorem unpack_reads_own_box {β : Type} (P : β → Box β → Prop) (fr : Free) (fixed : Params β) (A B C O : Box β)
    (θ : List β) (h : List.Forall₂ P θ (boundsList fr A B C O)) :
    ∃ p, unpack fr fixed θ = some p ∧
      (if fr.a then P p.a A else p.a = fixed.a) ∧ (if fr.b then P p.b B else p.b = fixed.b) ∧
      (if fr.c then P p.c C else p.c = fixed.c) ∧ (if fr.o then P p.o O else p.o = fixed.o) := by
  rw [boundsList, packG_eq] at h
  obtain ⟨va, θ1, rfl, ha, h1⟩ := forall₂_slot P fixed.a _ _ _ _ h
  obtain ⟨vb, θ2, rfl, hb, h2⟩ := forall₂_slot P fixed.b _ _ _ _ h1
  obtain ⟨vc, θ3, rfl, hc, h3⟩ := forall₂_slot P fixed.c _ _ _ _ h2
  obtain ⟨vo, θ4, rfl, ho, h4⟩ := forall₂_slot P fixed.o _ _ _ _ h3
  obtain rfl : θ4 = [] := by cases h4; rfl
  rw [← packG_eq]
  exact ⟨_, unpack_pack fr fixed ⟨va, vb, vc, vo⟩, slot_read ha, slot_read hb, slot_read hc, slot_read ho⟩

/-- `bounds` and `integrality` list the same coordinates -/
theorem bounds_integrality_aligned {β : Type} (fr : Free) (A B C O : Box β) :
    (boundsList fr A B C O).length = nBounds fr ∧ (integrality fr).length = nBounds fr ∧
      (boundsList fr A B C O).zip (integrality fr) = packG fr (A, false) (B, false) (C, true) (O, false) :=
  ⟨packG_length fr A B C O, packG_length fr _ _ _ _, packG_zip fr A B C O false false true false⟩

section box
variable {α : Type} [LinearOrder α]

/-- **T5.** The box of `a`, `b`, `o` is the constraint itself when it fixes the value and a sub-interval of
both the constraint and the data-driven default otherwise. -/
theorem box_subset_constraint (dLo dHi : α) (c : Cons α) :
    match c with
    | .absent => boxOf dLo dHi c = ⟨dLo, dHi⟩
    | .fixed v => boxOf dLo dHi c = ⟨v, v⟩
    | .interval lo hi => lo ≤ (boxOf dLo dHi c).lo ∧ (boxOf dLo dHi c).hi ≤ hi ∧
        dLo ≤ (boxOf dLo dHi c).lo ∧ (boxOf dLo dHi c).hi ≤ dHi := boxOf_subset dLo dHi c

/-- **T5.** The box of `c` lies inside `[1, 10]` and inside the constraint; `cs` enumerates its integers. -/
theorem c_box_within (cC : Cons Int) :
    (match cC with
      | .fixed v => cBox cC = ⟨v, v⟩
      | .absent => cBox cC = ⟨1, 10⟩
      | .interval lo hi => lo ≤ (cBox cC).lo ∧ (cBox cC).hi ≤ hi ∧ 1 ≤ (cBox cC).lo ∧ (cBox cC).hi ≤ 10) ∧
    (∀ c ∈ csList cC, (cBox cC).lo ≤ c ∧ c ≤ (cBox cC).hi) ∧ (csList cC).length = nCs cC :=
  ⟨cBox_within cC, csList_mem cC, csList_length cC⟩

/-- **T5 (noiseless class).** Every initial candidate is inside the box, coordinate by coordinate. -/
theorem initial_candidates_in_box_quad (fr : Free) (ofInt : Int → α) (rawA rawB : Int → Int → α)
    (aB bB cB oB : Box α) (haB : aB.lo ≤ aB.hi) (hbB : bB.lo ≤ bB.hi) (cs : List Int)
    (hcs : ∀ c ∈ cs, InBox (ofInt c) cB) (x : List α) (hx : x ∈ initPopQuad fr ofInt rawA rawB aB bB cs) :
    List.Forall₂ InBox x (boundsList fr aB bB cB oB) := by
  -- `a`, `b` are clipped into their boxes, `c` is one of `cs`
  obtain ⟨c, hc, hx⟩ := List.mem_flatMap.mp hx
  refine candProduct_forall₂ InBox fr _ _ _ _ aB bB cB oB ?_ ?_ ?_ (fun _ h => absurd h List.not_mem_nil) x hx
  · intro v hv; obtain ⟨d, _, rfl⟩ := List.mem_map.mp hv; exact clip_inBox _ aB haB
  · intro v hv; obtain ⟨d, _, rfl⟩ := List.mem_map.mp hv; exact clip_inBox _ bB hbB
  · intro v hv; obtain rfl := List.mem_singleton.mp hv; exact hcs c hc

/-- **T5 (noisy class).** Every candidate that survives `sorted(...)[:90]` is inside the box, coordinate by
coordinate (`o` too is clipped). -/
theorem initial_candidates_in_box_noisy (sortByLoss : List (List α) → List (List α))
    (hsort : ∀ l x, x ∈ sortByLoss l → x ∈ l) (fr : Free) (ofInt : Int → α)
    (rawA rawB : Int → Nat → Int → α) (rawO : Int → Nat → α) (aB bB cB oB : Box α)
    (haB : aB.lo ≤ aB.hi) (hbB : bB.lo ≤ bB.hi) (hoB : oB.lo ≤ oB.hi) (cs : List Int)
    (hcs : ∀ c ∈ cs, InBox (ofInt c) cB) (x : List α)
    (hx : x ∈ initPopNoisy sortByLoss fr ofInt rawA rawB rawO aB bB oB cs) :
    List.Forall₂ InBox x (boundsList fr aB bB cB oB) := by
  -- the selection of the best 90 only drops candidates
  obtain ⟨c, hc, hx⟩ := List.mem_flatMap.mp (hsort _ _ (List.mem_of_mem_take hx))
  obtain ⟨s, _, hx⟩ := List.mem_flatMap.mp hx
  refine candProduct_forall₂ InBox fr _ _ _ _ aB bB cB oB ?_ ?_ ?_ ?_ x hx
  · intro v hv; obtain ⟨d, _, rfl⟩ := List.mem_map.mp hv; exact clip_inBox _ aB haB
  · intro v hv; obtain ⟨d, _, rfl⟩ := List.mem_map.mp hv; exact clip_inBox _ bB hbB
  · intro v hv; obtain rfl := List.mem_singleton.mp hv; exact hcs c hc
  · intro v hv; obtain rfl := List.mem_singleton.mp hv; exact clip_inBox _ oB hoB

end box

/-- **T6.** The returned run is the one with the least `fun` (strict `<` fold: the first of equal minima);
no run is returned iff none has a loss below `inf`. -/
theorem best_of_selection {β γ : Type} [LinearOrder β] (inf : β) (runs : List (β × γ)) :
    (bestOf inf runs = (inf, none) ∧ ∀ r ∈ runs, ¬ r.1 < inf) ∨
    (∃ pre g post, runs = pre ++ ((bestOf inf runs).1, g) :: post ∧ (bestOf inf runs).2 = some g ∧
      (bestOf inf runs).1 < inf ∧ (∀ r ∈ pre, (bestOf inf runs).1 < r.1) ∧
      (∀ r ∈ post, (bestOf inf runs).1 ≤ r.1)) := bestOf_fold runs inf none (bestOf inf runs) rfl

example : bestOf (β := Nat) (γ := String) 100 [(5, "F"), (3, "T"), (3, "X")] = (3, some "T") := by decide

end Opda.Props.C10

#opda_audit Opda.Props.C10

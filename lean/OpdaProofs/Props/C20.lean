import OpdaProofs.Audit
import OpdaProofs.Experiments
import OpdaProofs.ExperimentsVolume
/-!
# C20 — experiment helpers: `ellipse_volume`, `get_approximation_parameters`, `Simulation.run`

The property theorems with their proofs, each a few lines.  The concave `QuadraticDistribution.cdf` is the polymorphic
model `Opda.Quad.cdf` at `ℝ`.  To follow the proofs open `Experiments.lean` (equations of the model, running maximum),
`ExperimentsVolume.lean` (Lebesgue volume of the ellipsoid), `Small.lean` (`tail_exact`), `QuadLaw.lean` (`cdf_of_mem`).

* **ellipse_volume.**  The model term is the stated formula (`ellipse_volume_formula`), permutation invariant,
  homogeneous of degree one in each axis — and it **is** the Lebesgue volume of the ellipsoid
  `{x : Σ (x_i/c_i)² ≤ 1}` (`ellipse_volume_is_lebesgue_volume`), derived from `EuclideanSpace.volume_closedBall`
  and the `|det|` scaling of Lebesgue measure; no volume formula is assumed anywhere in this file.
* **get_approximation_parameters.**  `(a, b, c) = (y_max − (1/ω)^{2/d}, y_max, d)`.  `tail_exact_uniform`: for `X` uniform
  on the box and `f(x) = b − ½(x−x₀)ᵀA(x−x₀)`, `A = Q diag(μ) Qᵀ` (`Q` orthogonal, `μ > 0`; by the spectral theorem
  `posDef_is_rotated` that is every positive definite `A`: `tail_exact_uniform_posDef`), the model's parameters computed
  from the Hessian eigenvalues `−μ_i` satisfy `P[f(X) ≥ y] = P[f(X) > y] = 1 − cdf_concave(y)` for every `y ∈ [a, b]`
  whose level ellipsoid `{f ≥ y}` lies inside the box.  The hypothesis is per level: `level_a_fills_box` shows that the
  ellipsoid at level `a` has *exactly* the volume of the box, so "`{f ≥ a}` inside the box" can hold only if the
  ellipsoid fills the box up to a null set (possible in `d = 1` only); containment at `a` implies containment at every
  `y ≥ a`, so the property as registered is the special case.
  Black boxes of the code that are *parameters* here: `differential_evolution` (supplies `y_max = b`),
  `autograd.hessian` + `np.linalg.eigvals` (supply the eigenvalues, in any order).
* **Simulation.run.**  `yss_cummax` is the running maximum along the sample axis (each entry is the maximum of its
  prefix, the rows are monotone, the last entry is the overall maximum, the recurrence of `np.maximum.accumulate`),
  `xs`/`ys` are the first trial, `yss = func(xss)`, shapes, every point inside the bounds when the uniforms are in
  `[0,1]`, and `y_min ≤ yss ≤ y_max` *given* optimality of the black-box optima.  `cummax_driver` restates the running
  maximum for the very term the driver evaluates (`Ext` values, `extMax`).
-/
namespace Opda.Props.C20
open Opda Opda.Exp Opda.ExpVol MeasureTheory Matrix

/-- the model of `ellipse_volume(cs)` is `π^{d/2} / Γ(d/2 + 1) · ∏ cs` -/
theorem ellipse_volume_formula (cs : List ℝ) :
    ellipseVolume cs = Real.pi ^ ((cs.length : ℝ) / 2) / Real.Gamma ((cs.length : ℝ) / 2 + 1) * cs.prod :=
  ellipseVolume_eq cs

/-- `ellipse_volume` is invariant under permutations of the axes -/
theorem ellipse_volume_perm (cs cs' : List ℝ) (h : cs.Perm cs') : ellipseVolume cs = ellipseVolume cs' := by
  rw [ellipseVolume_eq, ellipseVolume_eq, h.prod_eq, h.length_eq]

/-- `ellipse_volume` is homogeneous of degree one in each axis (the axis at any position) -/
theorem ellipse_volume_homogeneous_axis (l₁ l₂ : List ℝ) (c t : ℝ) :
    ellipseVolume (l₁ ++ (t * c) :: l₂) = t * ellipseVolume (l₁ ++ c :: l₂) := by
  rw [ellipseVolume_eq, ellipseVolume_eq]
  simp only [List.length_append, List.length_cons, List.prod_append, List.prod_cons]
  ring

/-- `ellipse_volume` is homogeneous of degree one in the axis at index `i` -/
theorem ellipse_volume_homogeneous_index (cs : List ℝ) (i : ℕ) (hi : i < cs.length) (t : ℝ) :
    ellipseVolume (cs.set i (t * cs[i])) = t * ellipseVolume cs := by
  -- `cs = take i cs ++ cs[i] :: drop (i + 1) cs`, and `set` replaces the middle entry
  rw [List.set_eq_take_append_cons_drop, if_pos hi, ellipse_volume_homogeneous_axis,
    List.getElem_cons_drop, List.take_append_drop]

/-- `ellipse_volume` is jointly homogeneous of degree `d` -/
theorem ellipse_volume_homogeneous_all (cs : List ℝ) (t : ℝ) :
    ellipseVolume (cs.map (t * ·)) = t ^ cs.length * ellipseVolume cs := by
  rw [ellipseVolume_eq, ellipseVolume_eq, List.length_map, List.prod_map_mul, List.map_const', List.prod_replicate,
    List.map_id']
  ring

/-- **`ellipse_volume(cs)` is the Lebesgue volume of the ellipsoid** `{x ∈ ℝ^d : Σ (x_i / c_i)² ≤ 1}`, `c_i > 0`, `d ≥ 1`
(derived from Mathlib's volume of the Euclidean ball and the `|det|` scaling of Lebesgue measure) -/
theorem ellipse_volume_is_lebesgue_volume {d : ℕ} [NeZero d] (c : Fin d → ℝ) (hc : ∀ i, 0 < c i) :
    volume {x : Fin d → ℝ | ∑ i, (x i / c i) ^ 2 ≤ 1} = ENNReal.ofReal (ellipseVolume (List.ofFn c)) := by
  simpa only [transpose_one, sub_zero, one_mulVec, Real.one_rpow, mul_one] using
    (volume_rotated_ellipsoid 1 (by rw [transpose_one, one_mul]) c hc 0 1 zero_le_one).1

/-- non-vacuity / sanity: the empty product (`d = 0`) gives `1`, as numpy does -/
example : ellipseVolume ([] : List ℝ) = 1 := ellipseVolume_nil

/-- the returned triple: `a = y_max − (1/ω)^{2/d}`, `b = y_max`, `c = d`, with `ω = ellipse_volume((-2/λ)^{1/2}) / vol(box)` -/
theorem params_formula (yMax : ℝ) (eigs : List ℝ) (bounds : List (ℝ × ℝ)) :
    approxParams yMax eigs bounds
      = (yMax - (1 / (ellipseVolume (axes eigs) / boxVolume bounds)) ^ ((2 : ℝ) / (bounds.length : ℝ)), yMax, bounds.length) :=
  approxParams_eq yMax eigs bounds

/-- the semi-axes handed to `ellipse_volume` are `√(2/(−λ_i))` and the box volume is `∏ (hi_i − lo_i)` -/
theorem params_ingredients (eigs : List ℝ) (bounds : List (ℝ × ℝ)) :
    axes eigs = eigs.map (fun l => Real.sqrt (2 / -l)) ∧ boxVolume bounds = (bounds.map fun p => p.2 - p.1).prod :=
  ⟨axes_eq eigs, boxVolume_eq bounds⟩

/-- `a < b` whenever the curvature is strictly negative and the box is non-degenerate -/
theorem params_a_lt_b (yMax : ℝ) (eigs : List ℝ) (bounds : List (ℝ × ℝ)) (hneg : ∀ l ∈ eigs, l < 0)
    (hb : ∀ p ∈ bounds, p.1 < p.2) : (approxParams yMax eigs bounds).1 < (approxParams yMax eigs bounds).2.1 :=
  approxParams_a_lt_b yMax hneg hb

/-- **tail exactness, algebraic form** (on the model's terms): `K·(b−y)^{d/2} / vol(box) = 1 − cdf_concave(y)` on `[a, b]`,
`K = ellipse_volume((-2/λ)^{1/2})` -/
theorem tail_exact_algebra (yMax : ℝ) (eigs : List ℝ) (bounds : List (ℝ × ℝ)) (hd : 0 < bounds.length)
    (hneg : ∀ l ∈ eigs, l < 0) (hb : ∀ p ∈ bounds, p.1 < p.2) (y : ℝ)
    (hya : (approxParams yMax eigs bounds).1 ≤ y) (hyb : y ≤ yMax) :
    ellipseVolume (axes eigs) * (yMax - y) ^ ((bounds.length : ℝ) / 2) / boxVolume bounds
      = 1 - Quad.cdf (approxDist yMax eigs bounds) y :=
  tail_exact_model yMax eigs bounds hd hneg hb y hya hyb

/-- **level-set volume, derived**: `vol{f ≥ y} = vol{f > y} = ellipse_volume((-2/λ)^{1/2}) · (b−y)^{d/2}` for the concave
quadratic `f` with curvature `Q diag(μ) Qᵀ` (Hessian eigenvalues `λ_i = −μ_i`) -/
theorem level_set_volume {d : ℕ} [NeZero d] (Q : Matrix (Fin d) (Fin d) ℝ) (hQ : Qᵀ * Q = 1) (μ : Fin d → ℝ)
    (hμ : ∀ i, 0 < μ i) (x₀ : Fin d → ℝ) (b y : ℝ) (hy : y ≤ b) :
    volume {x | y ≤ quadObjective (Q * diagonal μ * Qᵀ) x₀ b x}
        = ENNReal.ofReal (ellipseVolume (axes (hessEigs μ)) * (b - y) ^ ((d : ℝ) / 2))
      ∧ volume {x | y < quadObjective (Q * diagonal μ * Qᵀ) x₀ b x}
        = ENNReal.ofReal (ellipseVolume (axes (hessEigs μ)) * (b - y) ^ ((d : ℝ) / 2)) := by
  simp only [quadObjective_rotated Q μ hμ, le_sub_comm (a := y), lt_sub_comm (a := y), axes_hessEigs]
  exact volume_rotated_ellipsoid Q hQ _ (fun i => Real.sqrt_pos.mpr (div_pos two_pos (hμ i))) x₀ _ (sub_nonneg.mpr hy)

/-- **C20, tail exactness** (diagonal: `Q = 1`; rotated: any orthogonal `Q`): for `X` uniform on the box `[lo, hi]`,
`P[f(X) ≥ y] = P[f(X) > y] = 1 − cdf(y)` of `QuadraticDistribution(a, b, c, convex=False)` with the returned parameters,
for every `y ∈ [a, b]` whose level ellipsoid lies inside the box -/
theorem tail_exact_uniform {d : ℕ} [NeZero d] (Q : Matrix (Fin d) (Fin d) ℝ) (hQ : Qᵀ * Q = 1) (μ : Fin d → ℝ)
    (hμ : ∀ i, 0 < μ i) (x₀ : Fin d → ℝ) (b : ℝ) (lo hi : Fin d → ℝ) (hbox : ∀ i, lo i < hi i) (y : ℝ)
    (hya : (approxParams b (hessEigs μ) (boundsList lo hi)).1 ≤ y) (hyb : y ≤ b)
    (hin : {x | y ≤ quadObjective (Q * diagonal μ * Qᵀ) x₀ b x} ⊆ Set.Icc lo hi) :
    (ProbabilityTheory.cond volume (Set.Icc lo hi)) {x | y ≤ quadObjective (Q * diagonal μ * Qᵀ) x₀ b x}
        = ENNReal.ofReal (1 - Quad.cdf (approxDist b (hessEigs μ) (boundsList lo hi)) y)
      ∧ (ProbabilityTheory.cond volume (Set.Icc lo hi)) {x | y < quadObjective (Q * diagonal μ * Qᵀ) x₀ b x}
        = ENNReal.ofReal (1 - Quad.cdf (approxDist b (hessEigs μ) (boundsList lo hi)) y) :=
  have hv := level_set_volume Q hQ μ hμ x₀ b y hyb
  ⟨cond_box_eq_tail μ hμ b lo hi hbox y hya hyb hin hv.1,
    cond_box_eq_tail μ hμ b lo hi hbox y hya hyb (fun _ (hx : y < _) => hin (show y ≤ _ from hx.le)) hv.2⟩

/-- every real positive definite matrix is `Q diag(μ) Qᵀ` with `Q` orthogonal and `μ > 0` its eigenvalues -/
theorem posDef_is_rotated {d : ℕ} (A : Matrix (Fin d) (Fin d) ℝ) (hA : A.PosDef) :
    ∃ Q : Matrix (Fin d) (Fin d) ℝ, Qᵀ * Q = 1 ∧ (∀ i, 0 < hA.1.eigenvalues i)
      ∧ A = Q * diagonal hA.1.eigenvalues * Qᵀ := by
  refine ⟨(hA.1.eigenvectorUnitary : Matrix (Fin d) (Fin d) ℝ), ?_, hA.eigenvalues_pos, ?_⟩
  · have := (Matrix.mem_unitaryGroup_iff').mp hA.1.eigenvectorUnitary.2
    rwa [Matrix.star_eq_conjTranspose, Matrix.conjTranspose_eq_transpose_of_trivial] at this
  · have h := hA.1.spectral_theorem
    rwa [Unitary.conjStarAlgAut_apply, Matrix.star_eq_conjTranspose, Matrix.conjTranspose_eq_transpose_of_trivial,
      RCLike.ofReal_real_eq_id, Function.id_comp] at h

/-- **C20, tail exactness for an arbitrary positive definite curvature matrix** -/
theorem tail_exact_uniform_posDef {d : ℕ} [NeZero d] (A : Matrix (Fin d) (Fin d) ℝ) (hA : A.PosDef) (x₀ : Fin d → ℝ)
    (b : ℝ) (lo hi : Fin d → ℝ) (hbox : ∀ i, lo i < hi i) (y : ℝ)
    (hya : (approxParams b (hessEigs hA.1.eigenvalues) (boundsList lo hi)).1 ≤ y) (hyb : y ≤ b)
    (hin : {x | y ≤ quadObjective A x₀ b x} ⊆ Set.Icc lo hi) :
    (ProbabilityTheory.cond volume (Set.Icc lo hi)) {x | y ≤ quadObjective A x₀ b x}
        = ENNReal.ofReal (1 - Quad.cdf (approxDist b (hessEigs hA.1.eigenvalues) (boundsList lo hi)) y)
      ∧ (ProbabilityTheory.cond volume (Set.Icc lo hi)) {x | y < quadObjective A x₀ b x}
        = ENNReal.ofReal (1 - Quad.cdf (approxDist b (hessEigs hA.1.eigenvalues) (boundsList lo hi)) y) := by
  obtain ⟨Q, hQ, hpos, hAeq⟩ := posDef_is_rotated A hA
  have hobj : quadObjective A x₀ b = quadObjective (Q * diagonal hA.1.eigenvalues * Qᵀ) x₀ b := by rw [← hAeq]
  rw [hobj] at hin ⊢
  exact tail_exact_uniform Q hQ _ hpos x₀ b lo hi hbox y hya hyb hin

/-- "with `b` the maximum of `f`": the objective never exceeds `b` and attains it at `x₀` -/
theorem b_is_the_maximum {d : ℕ} (A : Matrix (Fin d) (Fin d) ℝ) (hA : A.PosDef) (x₀ : Fin d → ℝ) (b : ℝ) :
    (∀ x, quadObjective A x₀ b x ≤ b) ∧ quadObjective A x₀ b x₀ = b := by
  refine ⟨fun x => ?_, by rw [quadObjective, quadForm, sub_self, zero_dotProduct, mul_zero, sub_zero]⟩
  have := hA.posSemidef.dotProduct_mulVec_nonneg (x - x₀)
  rw [star_trivial] at this
  exact sub_le_self b (mul_nonneg one_half_pos.le this)

/-- the level ellipsoid at the returned `a` has exactly the volume of the box -/
theorem level_a_fills_box {d : ℕ} [NeZero d] (Q : Matrix (Fin d) (Fin d) ℝ) (hQ : Qᵀ * Q = 1) (μ : Fin d → ℝ)
    (hμ : ∀ i, 0 < μ i) (x₀ : Fin d → ℝ) (b : ℝ) (lo hi : Fin d → ℝ) (hbox : ∀ i, lo i < hi i) :
    volume {x | (approxParams b (hessEigs μ) (boundsList lo hi)).1 ≤ quadObjective (Q * diagonal μ * Qᵀ) x₀ b x}
      = volume (Set.Icc lo hi) := by
  have hlen : (boundsList lo hi).length = d := List.length_ofFn
  have hd : 0 < (boundsList lo hi).length := by rw [hlen]; exact NeZero.pos d
  have hlt := approxParams_a_lt_b b (hessEigs_neg μ hμ) (boundsList_lt lo hi hbox)
  -- at `y = a` the tail identity reads `K·(b−a)^{d/2} / vol(box) = 1 − cdf(a) = 1`
  have key := tail_exact_model b _ _ hd (hessEigs_neg μ hμ) (boundsList_lt lo hi hbox) _ le_rfl hlt.le
  rw [Quad.cdf_below (approxDist b (hessEigs μ) (boundsList lo hi)) hlt hd (approxParams b _ _).1 le_rfl, sub_zero,
    div_eq_one_iff_eq (boxVolume_pos (boundsList_lt lo hi hbox)).ne', hlen] at key
  rw [(level_set_volume Q hQ μ hμ x₀ b _ hlt.le).1, volume_box lo hi fun i => (hbox i).le, key]

/-- the containment condition for diagonal curvature: half-extents `√(2(b−y)/μ_i)` around the optimum -/
theorem containment_diagonal {d : ℕ} (μ : Fin d → ℝ) (hμ : ∀ i, 0 < μ i) (x₀ : Fin d → ℝ) (b y : ℝ) (lo hi : Fin d → ℝ)
    (hfit : ∀ i, lo i ≤ x₀ i - Real.sqrt (2 * (b - y) / μ i) ∧ x₀ i + Real.sqrt (2 * (b - y) / μ i) ≤ hi i) :
    {x | y ≤ quadObjective ((1 : Matrix (Fin d) (Fin d) ℝ) * diagonal μ * (1 : Matrix (Fin d) (Fin d) ℝ)ᵀ) x₀ b x}
      ⊆ Set.Icc lo hi := superlevel_subset_box_diag μ hμ x₀ b y lo hi hfit

/-- non-vacuity of `tail_exact_uniform`: `f(x) = 1 − x²` on `[−1, 1]` has a level `y < b`, `a ≤ y`, whose level set fits -/
example : ∃ y : ℝ, y < 1
    ∧ (approxParams (1 : ℝ) (hessEigs (fun _ : Fin 1 => (2 : ℝ))) (boundsList (fun _ : Fin 1 => (-1 : ℝ)) (fun _ => 1))).1 ≤ y
    ∧ {x | y ≤ quadObjective ((1 : Matrix (Fin 1) (Fin 1) ℝ) * diagonal (fun _ => (2 : ℝ)) * (1 : Matrix (Fin 1) (Fin 1) ℝ)ᵀ) 0 1 x}
        ⊆ Set.Icc (fun _ : Fin 1 => (-1 : ℝ)) (fun _ => 1) := tail_exact_uniform_nonvacuous

section Cummax
variable {β : Type} [LinearOrder β]

theorem cummax_length (l : List β) : (cummax max l).length = l.length := length_cummax max l

/-- entry `i` of `yss_cummax` is an upper bound of the prefix `l[0..i]` -/
theorem cummax_prefix_upper_bound (l : List β) (i j : ℕ) (hi : i < l.length) (hji : j ≤ i) :
    l[j] ≤ (cummax max l)[i]'(by rw [length_cummax]; exact hi) := by
  induction i with
  | zero => obtain rfl : j = 0 := Nat.le_zero.mp hji; exact (cummax_zero l hi).ge
  | succ i ih =>
    rw [cummax_succ l i hi]
    rcases hji.lt_or_eq with h | rfl
    · exact (ih (Nat.lt_of_succ_lt hi) (Nat.le_of_lt_succ h)).trans (le_max_left _ _)
    · exact le_max_right _ _

/-- entry `i` of `yss_cummax` is attained in the prefix `l[0..i]`: with `cummax_prefix_upper_bound`, it is its maximum -/
theorem cummax_prefix_attained (l : List β) (i : ℕ) (hi : i < l.length) :
    ∃ j, ∃ hj : j ≤ i, (cummax max l)[i]'(by rw [length_cummax]; exact hi) = l[j] := by
  induction i with
  | zero => exact ⟨0, le_rfl, cummax_zero l hi⟩
  | succ i ih =>
    rw [cummax_succ l i hi]
    obtain ⟨j, hj, e⟩ := ih (Nat.lt_of_succ_lt hi)
    rcases max_choice ((cummax max l)[i]'(by rw [length_cummax]; omega)) l[i + 1] with h | h
    · exact ⟨j, Nat.le_succ_of_le hj, h.trans e⟩
    · exact ⟨i + 1, le_rfl, h⟩

/-- the running maximum is non-decreasing along the sample axis -/
theorem cummax_monotone (l : List β) (i j : ℕ) (hij : i ≤ j) (hj : j < l.length) :
    (cummax max l)[i]'(by rw [length_cummax]; omega) ≤ (cummax max l)[j]'(by rw [length_cummax]; exact hj) := by
  obtain ⟨k, hk, e⟩ := cummax_prefix_attained l i (by omega)
  rw [e]
  exact cummax_prefix_upper_bound l j k hj (hk.trans hij)

/-- the running maximum starts at the first sample and follows the recurrence of `np.maximum.accumulate` -/
theorem cummax_recurrence (l : List β) :
    (∀ h : 0 < l.length, (cummax max l)[0]'(by rw [length_cummax]; exact h) = l[0])
      ∧ ∀ (i : ℕ) (hi : i + 1 < l.length), (cummax max l)[i + 1]'(by rw [length_cummax]; exact hi)
          = max ((cummax max l)[i]'(by rw [length_cummax]; omega)) l[i + 1] :=
  ⟨cummax_zero l, cummax_succ l⟩

/-- the last entry is the overall maximum of the trial -/
theorem cummax_last_is_max (l : List β) (h : l ≠ []) :
    ∃ hc : cummax max l ≠ [], (∀ x ∈ l, x ≤ (cummax max l).getLast hc) ∧ (cummax max l).getLast hc ∈ l := by
  have hlen := length_cummax max l
  have hpos := List.length_pos_iff.mpr h
  refine ⟨List.ne_nil_of_length_pos (by omega), ?_, ?_⟩
  · intro x hx
    obtain ⟨j, hj, rfl⟩ := List.getElem_of_mem hx
    simp only [List.getLast_eq_getElem, hlen]
    exact cummax_prefix_upper_bound l _ j (by omega) (by omega)
  · simp only [List.getLast_eq_getElem, hlen]
    obtain ⟨j, hj, e⟩ := cummax_prefix_attained l (l.length - 1) (by omega)
    rw [e]; exact List.getElem_mem _

/-- the running maximum is `scanl max` from the first sample -/
theorem cummax_is_scanl (x : β) (xs : List β) : cummax max (x :: xs) = List.scanl max x xs := cummax_cons x xs

end Cummax

/-- the running maximum for the very term the driver evaluates (`exp.sim`: `Ext` values, `extMax`) -/
theorem cummax_driver (l : List Opda.Wire.Ext) : cummax Opda.Drv.Exp.extMax l = cummax max l := by rw [extMax_eq_max]

section Sim
variable {α γ : Type} [Add α] [Sub α] [Mul α]
variable (nSamples : ℕ) (func : List α → γ) (mx : γ → γ → γ) (bounds : List (α × α)) (us : List (List (List α)))

/-- documented shapes: `ns = 1..n_samples`; `xss : (n_trials, n_samples, n_dims)`; `yss`, `yss_cummax : (n_trials, n_samples)` -/
theorem sim_shapes (nDims : ℕ) (hbl : bounds.length = nDims)
    (hus : ∀ trial ∈ us, trial.length = nSamples ∧ ∀ u ∈ trial, u.length = nDims) :
    (simRun nSamples func mx bounds us).ns = (List.range nSamples).map (· + 1)
      ∧ (simRun nSamples func mx bounds us).xss.length = us.length
      ∧ (simRun nSamples func mx bounds us).yss.length = us.length
      ∧ (simRun nSamples func mx bounds us).yssCummax.length = us.length
      ∧ (∀ t ∈ (simRun nSamples func mx bounds us).xss, t.length = nSamples ∧ ∀ x ∈ t, x.length = nDims)
      ∧ (∀ t ∈ (simRun nSamples func mx bounds us).yss, t.length = nSamples)
      ∧ (∀ t ∈ (simRun nSamples func mx bounds us).yssCummax, t.length = nSamples) :=
  ⟨simRun_ns .., simRun_xss_length .., simRun_yss_length .., simRun_cummax_length .., by
    simp only [simRun, List.forall_mem_map, List.length_map, length_cummax]
    exact ⟨fun t ht => ⟨(hus t ht).1, fun u hu => by
        rw [length_scalePoint, hbl, (hus t ht).2 u hu, min_self]⟩,
      fun t ht => (hus t ht).1, fun t ht => (hus t ht).1⟩⟩

/-- `yss = func(xss)`, `xs`/`ys` are the first trial, `yss_cummax` is the row-wise running maximum of `yss` -/
theorem sim_bookkeeping :
    (simRun nSamples func mx bounds us).yss = (simRun nSamples func mx bounds us).xss.map (fun trial => trial.map func)
      ∧ (simRun nSamples func mx bounds us).xs = (simRun nSamples func mx bounds us).xss.headD []
      ∧ (simRun nSamples func mx bounds us).ys = (simRun nSamples func mx bounds us).yss.headD []
      ∧ (simRun nSamples func mx bounds us).yssCummax = (simRun nSamples func mx bounds us).yss.map (cummax mx) :=
  ⟨simRun_yss .., simRun_xs .., simRun_ys .., simRun_cummax ..⟩

/-- what the driver's `exp.sim` evaluates is this bookkeeping applied to the evaluated `yss` -/
theorem sim_driver_book : simBook nSamples mx (simRun nSamples func mx bounds us).yss
    = ((simRun nSamples func mx bounds us).ns, (simRun nSamples func mx bounds us).ys,
       (simRun nSamples func mx bounds us).yssCummax) := simBook_eq ..

/-- `y_min ≤ yss ≤ y_max`, *given* that the optimiser's `y_min`, `y_max` are optimal on the box (named hypothesis: the
black box `differential_evolution`) -/
theorem sim_values_between [Preorder γ] (yMin yMax : γ) (inBox : List α → Prop)
    (hopt : ∀ x, inBox x → yMin ≤ func x ∧ func x ≤ yMax)
    (hin : ∀ trial ∈ (simRun nSamples func mx bounds us).xss, ∀ x ∈ trial, inBox x) :
    ∀ trial ∈ (simRun nSamples func mx bounds us).yss, ∀ v ∈ trial, yMin ≤ v ∧ v ≤ yMax := by
  simp only [simRun_yss, List.forall_mem_map]
  exact fun t ht x hx => hopt x (hin t ht x hx)

end Sim

/-- every point lies inside the bounds (exact arithmetic, uniforms in `[0,1]`) -/
theorem sim_points_in_bounds {α γ : Type} [Field α] [LinearOrder α] [IsStrictOrderedRing α]
    (nSamples : ℕ) (func : List α → γ) (mx : γ → γ → γ) (bounds : List (α × α)) (us : List (List (List α))) (hb : ∀ p ∈ bounds, p.1 ≤ p.2)
    (hus : ∀ trial ∈ us, ∀ u ∈ trial, ∀ t ∈ u, 0 ≤ t ∧ t ≤ (1 : α)) :
    ∀ trial ∈ (simRun nSamples func mx bounds us).xss, ∀ x ∈ trial, ∀ (i : ℕ) (hi : i < x.length) (hib : i < bounds.length),
      bounds[i].1 ≤ x[i] ∧ x[i] ≤ bounds[i].2 := by
  simp only [simRun, List.forall_mem_map]
  exact fun tr htr u hu i hi hib => scalePoint_mem bounds u hb (hus tr htr u hu) i hi hib


/-- non-vacuity of the simulation hypotheses: one trial, two samples, one dimension -/
example : ∃ (bounds : List (ℚ × ℚ)) (us : List (List (List ℚ))),
    (∀ p ∈ bounds, p.1 ≤ p.2) ∧ (∀ trial ∈ us, ∀ u ∈ trial, ∀ t ∈ u, 0 ≤ t ∧ t ≤ (1 : ℚ))
      ∧ (∀ trial ∈ us, trial.length = 2 ∧ ∀ u ∈ trial, u.length = 1) :=
  ⟨[(-1, 3)], [[[1/2], [0]]], by decide +kernel, by decide +kernel, by decide⟩

end Opda.Props.C20

#opda_audit Opda.Props.C20

import OpdaProofs.Audit
import OpdaProofs.Sample
import OpdaProofs.EmpMore
import OpdaProofs.ExtInst
import OpdaProofs.NoisyLaw
/-!
# C13 — `sample()` draws from the distribution its `cdf` describes

Property theorems (lemmas in `OpdaProofs/Sample.lean`, `QuadLaw.lean`, `Emp.lean`, `EmpMore.lean` (range of the
empirical cdf), `NoisyLaw.lean` (distribution function of the noisy draw; the witness of the second-to-last `example`); models in
`OpdaModel/Sample.lean`).
`volume` is Lebesgue measure on `ℝ`: "`U` uniform on `[0,1)`" is the restriction to `Ico 0 1`, which is what
`Generator.uniform(0, 1)` / `Generator.random()` document.

What is proved: the *functions* the three `sample` methods apply to the generator's primitives push the uniform
(resp. uniform × normal) law forward to the law the class's own `cdf` describes.  What is compared on every run
(`harness/corr_C13.py`, bitwise): that `sample(size, generator=g)` *is* that function of the primitives drawn from a
clone of `g`, for `size ∈ {None, k, (k₁,k₂), 0}`, with the requested shape.  What is trusted: numpy's `Generator`
(`uniform`/`random` uniform on `[0,1)`, `normal` normal, `integers` uniform on `{0,…,n−1}`, draws independent).
-/
namespace Opda.Props.C13
open MeasureTheory Set Opda.Emp Opda.Sample Opda.Wire

/-- **T1 inverse transform** (any preorder of values): if `Q` and `F` satisfy the Galois law on levels in `(0,1]`
then `P[Q(U) ≤ y] = F(y)`. -/
theorem inverse_transform {E : Type} [Preorder E] (Q : ℝ → E) (F : E → ℝ) (y : E) (hF0 : 0 ≤ F y) (hF1 : F y ≤ 1)
    (hgal : ∀ u, 0 < u → u ≤ 1 → (Q u ≤ y ↔ u ≤ F y)) :
    volume {u : ℝ | u ∈ Ioc (0:ℝ) 1 ∧ Q u ≤ y} = ENNReal.ofReal (F y) :=
  Opda.Sampling.inverse_transform Q F y hF0 hF1 hgal

/-- the Galois law of the noiseless class, every `a < b`, `c ≥ 1`, both shapes -/
theorem quadratic_galois (d : Opda.Quad.Params ℝ) (hab : d.a < d.b) (hc : 0 < d.c) (y u : ℝ) (hu0 : 0 < u) (hu1 : u ≤ 1) :
    Opda.Quad.ppf d u ≤ y ↔ u ≤ Opda.Quad.cdf d y := Opda.Quad.ppf_le_iff d hab hc u hu0 hu1 y

/-- for `U` uniform on `[0,1)`: `P[sample ≤ y] = cdf(y)`, every `y` -/
theorem quadratic_sample_law (d : Opda.Quad.Params ℝ) (hab : d.a < d.b) (hc : 0 < d.c) (y : ℝ) :
    volume {u : ℝ | u ∈ Ico (0:ℝ) 1 ∧ quadSample d u ≤ y} = ENNReal.ofReal (Opda.Quad.cdf d y) :=
  quad_sample_law d hab hc y

/-- support clause: every draw lies in `[a, b]` (for every `u`, the model clips like the code) -/
theorem quadratic_sample_support (d : Opda.Quad.Params ℝ) (hab : d.a ≤ d.b) (hc : 0 < d.c) (u : ℝ) :
    d.a ≤ quadSample d u ∧ quadSample d u ≤ d.b := Opda.Quad.ppf_mem d hab u

section emp
variable {E : Type} [LinearOrder E] [OrderBot E] [OrderTop E]

/-- inverse transform through the empirical quantile function (C03's Galois law) -/
theorem empirical_ppf_sample_law (a b y : E) (obs : List (E × ℝ)) (hn : NonNeg obs) (htot : 0 < total obs)
    (hay : a ≤ y) :
    volume {u : ℝ | u ∈ Ioc (0:ℝ) 1 ∧ ppf a (support ⊥ ⊤ a b obs) u ≤ y}
      = ENNReal.ofReal (cdf (support ⊥ ⊤ a b obs) y) :=
  Opda.Sampling.inverse_transform (ppf a (support ⊥ ⊤ a b obs)) (cdf (support ⊥ ⊤ a b obs)) y
    (cdf_range a b obs hn htot y).1 (cdf_range a b obs hn htot y).2
    fun u h0 h1 => ppf_le_iff a b y obs hn htot u h0 h1 hay

omit [OrderBot E] [OrderTop E] in
/-- **T3** `generator.choice(ys, p=ws)` = `ys[searchsortedRight(cumsum ws / Σws, U)]` reproduces each atom's
weight: `P[draw = v] = Σ{w_i : y_i = v} / Σ w_i`, for every observation list (ties, zero weights) -/
theorem choice_reproduces_weights (v : E) (obs : List (E × ℝ)) (hn : NonNeg obs) (htot : 0 < total obs) :
    volume {u : ℝ | u ∈ Ico (0:ℝ) 1 ∧ pick obs u = some v} = ENNReal.ofReal (weightEq v obs / total obs) := by
  rw [← weightP_eq_weightEq, ← pick_volume (fun y => y = v) obs hn htot]
  congr 1
  ext u
  exact and_congr_right fun _ => ⟨fun hv => ⟨v, hv, rfl⟩, fun ⟨_, hv, h⟩ => h ▸ hv⟩

/-- the distribution function of a `generator.choice` draw is the class's own `cdf` (the C03 model), whatever bounds
`a`, `b` -/
theorem choice_law_is_cdf (a b y : E) (obs : List (E × ℝ)) (hn : NonNeg obs) (htot : 0 < total obs) :
    volume {u : ℝ | u ∈ Ico (0:ℝ) 1 ∧ ∃ v, pick obs u = some v ∧ v ≤ y}
      = ENNReal.ofReal (cdf (support ⊥ ⊤ a b obs) y) := by
  rw [cdf_support, ← weightP_eq_weightLE]
  exact pick_volume (fun v => v ≤ y) obs hn htot

end emp

/-- `generator.choice` gives an arbitrary event `p` the weight of the observations in it (no order on the values
needed) -/
theorem choice_event_weight {E : Type} (p : E → Prop) [DecidablePred p] (obs : List (E × ℝ))
    (hn : ∀ q ∈ obs, 0 ≤ q.2) (htot : 0 < total obs) :
    volume {u : ℝ | u ∈ Ico (0:ℝ) 1 ∧ ∃ v, pick obs u = some v ∧ p v} = ENNReal.ofReal (weightP p obs / total obs) :=
  pick_volume p obs hn htot

/-- support clauses: for `u ∈ [0,1)` the index is in range, and the draw is an observation of positive weight -/
theorem choice_in_range {E : Type} (obs : List (E × ℝ)) (htot : 0 < total obs) (u : ℝ) (h0 : 0 ≤ u) (h1 : u < 1) :
    ∃ v, pick obs u = some v :=
  pickAux_isSome (total obs) u obs 0 (by rw [zero_div]; exact h0) (by rw [zero_add, div_self htot.ne']; exact h1)

theorem choice_support {E : Type} (obs : List (E × ℝ)) (htot : 0 < total obs) (u : ℝ) (h0 : 0 ≤ u) (v : E)
    (hv : pick obs u = some v) : ∃ q ∈ obs, q.1 = v ∧ 0 < q.2 :=
  pickAux_support (total obs) htot u obs 0 (by rw [zero_div]; exact h0) v hv

/-- unweighted (`ws=None`, `generator.integers(0, n)`): counting form — the indices that return `v` are exactly as
many as `v` occurs in `ys`, so a uniform index gives `v` probability `count(v)/n` -/
theorem unweighted_choice_counts {E : Type} [DecidableEq E] (ys : List E) (v : E) :
    ((List.range ys.length).filter fun i => pickIndex ys i = some v).length = ys.count v := by
  induction ys with
  | nil => simp
  | cons y rest ih =>
    rw [List.length_cons, List.range_succ_eq_map, List.filter_cons, List.filter_map]
    have e : (fun i => decide (pickIndex (y :: rest) i = some v)) ∘ Nat.succ
        = fun i => decide (pickIndex rest i = some v) := by
      funext i; rfl
    rw [e]
    by_cases hy : y = v
    · subst hy
      simp only [pickIndex, Opda.Emp.nth?, decide_true, if_true, List.length_cons, List.length_map,
        List.count_cons_self]
      simp only [pickIndex] at ih
      rw [ih]
    · have hne : ¬ (some y = some v) := fun h => hy (Option.some.inj h)
      simp only [pickIndex, Opda.Emp.nth?, hne, decide_false, Bool.false_eq_true, if_false, List.length_map]
      simp only [pickIndex] at ih
      rw [ih, List.count_cons_of_ne hy]

/-- the term the driver evaluates (`Ext` values, exact `Rat` weights and `u`) picks the observation the real-number
statement is about -/
theorem choice_driver (obs : List (Ext × Rat)) (u : Rat) :
    pick (obs.map fun q => (q.1, (q.2 : ℝ))) (u : ℝ) = pick obs u := by
  unfold pick
  rw [total_cast, ← Rat.cast_zero]
  exact pickAux_cast (total obs) u 0 obs

/-- **T2** on any probability space, `U` and `Z` independent, `Z` standard normal: the law of the draw is the
convolution of the law of the quadratic part with `N(0, o²)` (the C06 Spec, by definition of convolution) -/
theorem noisy_sample_law {Ω : Type} [MeasurableSpace Ω] (P : Measure Ω) [IsProbabilityMeasure P] (U Z : Ω → ℝ)
    (hU : Measurable U) (hZ : Measurable Z) (hind : ProbabilityTheory.IndepFun U Z P)
    (hZlaw : P.map Z = ProbabilityTheory.gaussianReal 0 1) (d : Opda.Quad.Params ℝ) (o : ℝ) :
    P.map (fun ω => noisySample d o (U ω) (Z ω))
      = (P.map (fun ω => noisyQuadPart d (U ω))) ∗ ProbabilityTheory.gaussianReal 0 (.mk (o ^ 2) (sq_nonneg o)) :=
  noisy_law P U Z hU hZ hind hZlaw d o

/-- **T2, distribution function**: `U` uniform on `[0,1)` (`uniform01 = volume.restrict (Ico 0 1)`), `Z` standard normal,
independent, `a < b`, `c ≥ 1`, `o > 0` ⇒ `P[sample ≤ y]` is the C06 Spec at `y`: `H((y−a)/(b−a))` (convex) resp.
`1 − H((b−y)/(b−a))` (concave), `H(t) = ∫₀¹ Φ((t−x)/s) d(x^{c/2})`, `s = o/(b−a)` — the distribution function of the
convolution of `noisy_sample_law` (`Opda.Props.C06.spec_is_law_of_sum`; independence + Fubini + the substitution
`x = u^{2/c}`, `OpdaProofs/NoisyLaw.lean`) -/
theorem noisy_sample_distribution_function {Ω : Type} [MeasurableSpace Ω] (P : Measure Ω) [IsProbabilityMeasure P]
    (U Z : Ω → ℝ) (hU : Measurable U) (hZ : Measurable Z) (hind : ProbabilityTheory.IndepFun U Z P)
    (hUlaw : P.map U = volume.restrict (Ico 0 1)) (hZlaw : P.map Z = ProbabilityTheory.gaussianReal 0 1)
    (d : Opda.Quad.Params ℝ) (o : ℝ) (hab : d.a < d.b) (hc : 1 ≤ d.c) (ho : 0 < o) (y : ℝ) :
    (P {ω | noisySample d o (U ω) (Z ω) ≤ y}).toReal
      = (if d.convex then Opda.Noisy.mixture ((d.c : ℝ) / 2) (o / (d.b - d.a)) ((y - d.a) / (d.b - d.a))
         else 1 - Opda.Noisy.mixture ((d.c : ℝ) / 2) (o / (d.b - d.a)) ((d.b - y) / (d.b - d.a))) :=
  Opda.NoisyLaw.noisy_sample_cdf P U Z hU hZ hind hUlaw hZlaw d o hab hc ho y

/-- the quadratic part of a noisy draw is the noiseless draw (so its law is `quadratic_sample_law`) -/
theorem noisy_quadratic_part (d : Opda.Quad.Params ℝ) (u : ℝ) (h0 : 0 ≤ u) (h1 : u ≤ 1) :
    noisyQuadPart d u = quadSample d u := noisyQuadPart_eq d u h0 h1

example : ∃ d : Opda.Quad.Params ℝ, d.a < d.b ∧ 0 < d.c := ⟨⟨0, 1, 3, true⟩, by norm_num, by norm_num⟩

/-- the hypotheses of `noisy_sample_distribution_function` are satisfiable: the coordinates of `ℝ × ℝ` under
`uniform[0,1) ⊗ N(0,1)` -/
example : ∃ (P : Measure (ℝ × ℝ)) (_ : IsProbabilityMeasure P) (U Z : ℝ × ℝ → ℝ), Measurable U ∧ Measurable Z
    ∧ ProbabilityTheory.IndepFun U Z P ∧ P.map U = volume.restrict (Ico 0 1)
    ∧ P.map Z = ProbabilityTheory.gaussianReal 0 1 := Opda.NoisyLaw.exists_uniform_normal_pair

example : ∃ obs : List (ℝ × ℝ), NonNeg obs ∧ 0 < total obs :=
  ⟨[(1, 1/2), (0, 1/2)], by intro p hp; simp at hp; rcases hp with rfl | rfl <;> norm_num, by norm_num [total]⟩

end Opda.Props.C13

#opda_audit Opda.Props.C13

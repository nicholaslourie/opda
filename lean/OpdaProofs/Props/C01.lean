import OpdaProofs.Audit
import OpdaProofs.BandBox
import OpdaProofs.DkwEps
import OpdaProofs.RectProb
import OpdaProofs.RectVolume
import OpdaProofs.RectBand
import OpdaProofs.RectPIT
import OpdaProofs.OrderStatBeta
import OpdaProofs.LdStat
import OpdaProofs.BetaHdV
/-!
# C01 — CDF confidence bands attain their nominal simultaneous coverage  (partial)

Lemma modules, in the order of the argument: `BandBox`, `DkwEps`; `RectProb` → `RectVolume` → `RectBand` → `RectPIT` (with
`CdfOf`) → `OrderStatBeta` → `LdStat` → `BetaHdV`.

**Proved.**
* *Reduction.* "The band contains the whole true CDF" is a rectangle event for the order statistics, for every continuous
  F (`band_contains_iff_box`); for the dkw/ks tables the rectangle is the Kolmogorov distance (`dkw_ks_box_iff_sup`); the
  defining equation and the monotonicity of the DKW radius (`dkw_epsilon_*`); the coverage statement for dkw *conditional
  on* the Dvoretzky–Kiefer–Wolfowitz–Massart inequality, a named hypothesis (`dkw_coverage_of_massart`); the ld test
  duality (`ld_box_iff_stat`).
* *The rectangle probability.* The executable evaluator `Opda.RectProb.coverage` (`OpdaModel/RectProb.lean`, driver op
  `band.rect`, a dynamic programme over the cells between consecutive levels) *is* the probability, under the product
  measure of `n` independent uniforms on `[0,1]`, of `{αᵢ ≤ U₍ᵢ₎ ≤ βᵢ ∀ i}` for all rational level lists in `[0,1]`
  (`rect_coverage_is_sum_over_assignments`: finite combinatorics; `rect_coverage_is_volume`,
  `rect_coverage_is_volume_order_statistics`: measure theory), hence the probability that the band with these level
  tables contains the uniform distribution function everywhere (`band_coverage_is_rect_coverage`).
* *Every continuous distribution.* For a probability measure `ν` on `ℝ` whose distribution function `F t = ν (-∞, t]` is
  continuous (equivalently: `ν` has no atoms, `continuous_cdf_iff_no_atoms`), `F(Y)` is uniform on `[0,1]` (`pit_map`,
  `pit_sublevel`), `(F(Y₁), …, F(Yₙ))` for independent draws is `n` independent uniforms (`pit_product`), and the
  probability under `ν^{⊗n}` that the band with the given level tables contains `F` at every `t` is `coverage α β` — the
  same number for every such `ν` (`band_coverage_any_continuous_F`).
* *The Beta law of a simulated order statistic (ld methods).* For `N` independent uniforms the `k`-th (0-based) order
  statistic has distribution function `Σ_{j=k+1}^{N} C(N,j) t^j (1−t)^{N−j}` (`uniform_order_statistic_cdf`), which is C15's
  Beta(k+1, N−k) distribution function `G`, the integral of the normalised Beta density
  (`uniform_order_statistic_is_beta`); for `N` independent draws `T₁..T_N` from ANY probability measure with continuous
  distribution function `F`, `F(T₍ₖ₎)` has that same Beta(k+1, N−k) law (`simulated_critical_value_coverage_is_beta`), and
  the coverage `F(c)` of any critical value `c` between `T₍ₖ₎` and `T₍ₖ'₎` — in particular of the linear interpolation
  `np.quantile` returns — has a distribution function between those of Beta(k'+1, N−k') and Beta(k+1, N−k)
  (`interpolated_critical_value_coverage_between_betas`).
* *The simulated ld statistic has a continuous distribution function* (`OpdaProofs/LdStat.lean`).  For `n ≥ 1` and any
  functions `c i` with finite (or just Lebesgue-null) level sets in `[0,1]`, `T = max_i c_i(U₍ᵢ₎)` has no atoms under `n`
  independent uniforms (`ld_statistic_no_atoms`), so for measurable `c i` its law is a probability measure with continuous
  distribution function (`ld_statistic_cdf_continuous`), that function being the coverage of the band at the critical
  value (`ld_law_cdf_is_band_coverage`).
  - `ld_equal_tailed`: the equal-tailed coverage function `2·|1/2 − G x|` of a `G` strictly increasing on `[0,1]` has level
    sets of at most two points (`equal_tailed_level_sets`); C15's Beta(a,b) distribution function is strictly increasing on
    `[0,1]` (`beta_cdf_strictly_increasing`); so, for `n ≥ 1`, the Beta law of the coverage of a simulated order statistic
    and the bracket for the interpolated quantile hold without a continuity hypothesis
    (`ld_equal_tailed_critical_value_coverage_is_beta`, `ld_equal_tailed_interpolated_critical_value_between_betas`).
  - `ld_highest_density`: the same holds for every measurable family with finite level sets
    (`ld_critical_value_coverage_is_beta_of_finite_level_sets`), e.g. every family strictly decreasing up to a point and
    strictly increasing after it (`v_shaped_level_sets`).  The highest-density coverage function has this shape
    (`OpdaProofs/BetaHdV.lean`): `hdcov a b x`, the Beta(a,b)-mass of the level set of the density through `x` (= of the
    smallest highest-density interval containing `x`, C15 `hdcov_spec`,
    `hd_coverage_is_mass_of_shortest_interval_left/right`), is measurable, strictly decreasing on `[0,m]` and strictly
    increasing on `[m,1]`, `m` the mode (C15 `hd_coverage_v_shaped`; end-point modes for `a = 1` / `b = 1` included).  So
    for `n ≥ 2` the coverage functions `hdcov (i+1) (n−i)` have finite level sets
    (`ld_highest_density_coverage_functions_v_shaped`), the statistic has a continuous distribution function
    (`ld_highest_density_cdf_continuous`), and the Beta law and the bracket for the interpolated quantile hold without a
    hypothesis (`ld_highest_density_critical_value_coverage_is_beta`,
    `ld_highest_density_interpolated_critical_value_between_betas`).  `n = 1`, where the only order statistic is uniform
    and every interval is highest-density, is excluded.

**Evaluated on every run.** `coverage` in exact ℚ on the level tables read off the code's output (dkw `≥ c`, ks
`= c ± 1e-12`, ld inside the stated Beta interval).  Steck's determinant (`OpdaModel/Steck.lean`; its identity is cited, not
proved) is not in the trusted base: it is evaluated alongside and must give the same rational.

**Cited / not formalised.** DKW–Massart; the Kolmogorov–Smirnov law inside scipy.  For the ld methods, outside Lean are:
(i) that the code's `np.quantile(ts, confidence)` is the interpolated order statistic the theorem speaks about, (ii) the
numerical Beta quantiles (`scipy.stats.beta.ppf`) the harness uses for its acceptance window, (iii) that the code's float
coverage functions (`scipy.stats.beta.cdf`, bisection) realise the real functions the theorem is about.  Not cited, being
theorems here: the probability integral transform (`pit_map` / `pit_product`), the Beta law of an order statistic
(`uniform_order_statistic_is_beta` / `simulated_critical_value_coverage_is_beta`), the continuity of the ld statistic's
distribution function (`ld_equal_tailed`, `n ≥ 1`; `ld_highest_density`, `n ≥ 2`).
-/
namespace Opda.Props.C01
open Opda.Band

/-- **the band contains F everywhere iff F passes through the box at the order statistics**: for every `n`, every
strictly increasing sample, every level tables with `L 0 ≤ 0`, `1 ≤ U n`, and every continuous non-decreasing
`F : ℝ → [0,1]`:  `(∀ t, L_{k(t)} ≤ F t ≤ U_{k(t)}) ↔ ∀ i, L_{i+1} ≤ F(y_i) ≤ U_i`, `k(t)` the number of sample points
`≤ t`.  Since `F(Y_(i))` are uniform order statistics for continuous `F`, the coverage of the band is the rectangle
probability `P[L_i ≤ U_(i) ≤ U_{i-1} ∀ i]`, the same for every continuous `F`. -/
theorem band_contains_iff_box (n : ℕ) (y : ℕ → ℝ) (hy : ∀ i j, i < j → j < n → y i < y j)
    (L U : ℕ → ℝ) (F : ℝ → ℝ) (hmono : Monotone F) (hcont : Continuous F)
    (h0 : ∀ t, 0 ≤ F t) (h1 : ∀ t, F t ≤ 1) (hL0 : L 0 ≤ 0) (hUn : 1 ≤ U n) :
    (∀ t k, IsCount n y t k → L k ≤ F t ∧ F t ≤ U k)
      ↔ (∀ i, i < n → L (i+1) ≤ F (y i) ∧ F (y i) ≤ U i) :=
  Opda.Band.band_contains_iff_box n y hy L U F hmono hcont h0 h1 hL0 hUn

/-- the count `k(t)` used above is well defined -/
theorem count_unique (n : ℕ) (y : ℕ → ℝ) (t : ℝ) (k k' : ℕ)
    (h : IsCount n y t k) (h' : IsCount n y t k') : k = k' :=
  Opda.Band.isCount_unique n y t k k' h h'

/-- for the dkw/ks tables `k/n ∓ ε` the box is the statement that the Kolmogorov distance is at most `ε` -/
theorem dkw_ks_box_iff_sup (n : ℕ) (hn : 0 < n) (y : ℕ → ℝ) (F : ℝ → ℝ) (ε : ℝ) :
    (∀ i, i < n → ((i+1 : ℕ) : ℝ)/n - ε ≤ F (y i) ∧ F (y i) ≤ ((i : ℕ) : ℝ)/n + ε)
      ↔ (∀ i, i < n → ((i+1 : ℕ) : ℝ)/n - F (y i) ≤ ε ∧ F (y i) - ((i : ℕ) : ℝ)/n ≤ ε) :=
  Opda.Band.dkw_box n hn y F ε

/-- the DKW radius solves `2·exp(−2nε²) = 1 − confidence` -/
theorem dkw_epsilon_spec (n c : ℝ) (hn : 0 < n) (hc0 : 0 ≤ c) (hc1 : c < 1) :
    2 * Real.exp (-2 * n * (Opda.Dkw.eps n c)^2) = 1 - c := Opda.Dkw.eps_spec n c hn hc0 hc1

theorem dkw_epsilon_mono_confidence (n c c' : ℝ) (hn : 0 < n) (hc0 : 0 ≤ c) (hcc : c ≤ c') (hc1 : c' < 1) :
    Opda.Dkw.eps n c ≤ Opda.Dkw.eps n c' := Opda.Dkw.eps_mono_c n c c' hn hc0 hcc hc1

theorem dkw_epsilon_anti_n (n n' c : ℝ) (hn : 0 < n) (hnn : n ≤ n') (hc0 : 0 ≤ c) (hc1 : c < 1) :
    Opda.Dkw.eps n' c ≤ Opda.Dkw.eps n c := Opda.Dkw.eps_anti_n n n' c hn hnn hc0 hc1

/-- **dkw coverage, conditional on Massart's inequality**: if the probability `pviol` that the Kolmogorov distance
exceeds `ε(n,c)` is at most `2·exp(−2nε²)` (Dvoretzky–Kiefer–Wolfowitz with Massart's constant — the named hypothesis
`hDKW`, cited, not proved here) then it is at most `1 − c`, i.e. the band covers with probability at least `c`. -/
theorem dkw_coverage_of_massart (n c pviol : ℝ) (hn : 0 < n) (hc0 : 0 ≤ c) (hc1 : c < 1)
    (hDKW : pviol ≤ 2 * Real.exp (-2 * n * (Opda.Dkw.eps n c)^2)) : 1 - pviol ≥ c := by
  rw [Opda.Dkw.eps_spec n c hn hc0 hc1] at hDKW; linarith

/-- **ld bands are a test**: if each pointwise interval is the sub-level set of its coverage function
(`x ∈ I_i(t) ↔ cov_i(x) ≤ t`: C15 `equal_tailed` for the equal-tailed family; for the highest-density family the
intervals are the sub-level sets of the V-shaped `hdcov`, `OpdaProofs/LdWiden.lean`) then "F passes through all intervals at critical value `t`" is "the statistic
`max_i cov_i(F(y_i))` is at most `t`" — so the band's coverage at `t` is the CDF of the simulated statistic at `t`. -/
theorem ld_box_iff_stat (n : ℕ) (lo hi : ℕ → ℝ → ℝ) (cov : ℕ → ℝ → ℝ) (x : ℕ → ℝ) (t : ℝ)
    (hsub : ∀ i, i < n → ∀ u, (lo i t ≤ u ∧ u ≤ hi i t) ↔ cov i u ≤ t) :
    (∀ i, i < n → lo i t ≤ x i ∧ x i ≤ hi i t) ↔ (∀ i, i < n → cov i (x i) ≤ t) :=
  forall₂_congr fun i hi' => hsub i hi' (x i)

section rect
open Opda.RectProb Opda.RectProbP Finset

/-- **what the dynamic programme computes (finite combinatorics)**: with `q₀ = 0 < q₁ < … < q_{K−1} = 1` the break
points `points α β` (0, the levels inside (0,1), 1), cell `k` the interval `(q₍ₖ₋₁₎, qₖ]` (`cellLeft`; the first cell
`(0,0]` is empty) and `n` the number of levels, `coverage α β` is the sum over **all** `Kⁿ` assignments
`g : points → cells` of `∏ⱼ length(cell (g j))` if the assignment is allowed and `0` otherwise; allowed means that at
every break point `qₖ` the number `#{j | g j ≤ k}` of points in the cells up to `qₖ` passes `okAt` — see `okAt_spec`. -/
theorem rect_coverage_is_sum_over_assignments (alpha beta : List ℚ) :
    coverage alpha beta
      = ∑ g : Fin alpha.length → Fin (points alpha beta).length,
          if (∀ k : Fin (points alpha beta).length, okAt alpha beta (points alpha beta)[k] #{j | g j ≤ k} = true)
          then ∏ j, ((points alpha beta)[g j] - cellLeft (points alpha beta) (g j)) else 0 :=
  Opda.RectProbP.coverage_eq_sum_points alpha beta

/-- the constraint checked at a break point `q`: a count `c` (`= #{j : U_j ≤ q}`) is allowed iff for every `i` (0-based)
`βᵢ ≤ q → i + 1 ≤ c` (at least `i+1` points must lie below `βᵢ`) and `q ≤ αᵢ → c ≤ i` (at most `i` points below `αᵢ`) -/
theorem okAt_spec (alpha beta : List ℚ) (q : ℚ) (c : ℕ) :
    okAt alpha beta q c = true
      ↔ (∀ i (h : i < beta.length), beta[i] ≤ q → i + 1 ≤ c) ∧ (∀ i (h : i < alpha.length), q ≤ alpha[i] → c ≤ i) :=
  Opda.RectProbP.okAt_iff alpha beta q c

/-- **the evaluator is the probability of the rectangle (measure theory)**: under the law of `n` independent uniforms
on `[0,1]` (the product measure `Measure.pi fun _ => volume.restrict (Icc 0 1)` on `Fin n → ℝ`), the event
"for every `i` at most `i` sample points are `< αᵢ` and at least `i + 1` sample points are `≤ βᵢ`" (0-based; this is
`αᵢ ≤ U₍ᵢ₎ ≤ βᵢ ∀ i`, see `orderStat_le_iff_count`, `le_orderStat_iff_count`) has probability `coverage α β`, for all
rational level lists in `[0,1]` (no monotonicity needed).  Proof: up to the null set of samples with a point on a
level, the event inside the cube is the disjoint union of the boxes `∏ⱼ cell (g j)` over the allowed assignments `g`,
each of volume `∏ⱼ length (cell (g j))`; then `rect_coverage_is_sum_over_assignments`. -/
theorem rect_coverage_is_volume (alpha beta : List ℚ)
    (hα : ∀ x ∈ alpha, 0 ≤ x ∧ x ≤ 1) (hβ : ∀ x ∈ beta, 0 ≤ x ∧ x ≤ 1) :
    (MeasureTheory.Measure.pi fun _ : Fin alpha.length =>
        (MeasureTheory.volume : MeasureTheory.Measure ℝ).restrict (Set.Icc 0 1))
      {u | (∀ i (h : i < alpha.length), #{j | u j < ((alpha[i] : ℚ) : ℝ)} ≤ i)
          ∧ (∀ i (h : i < beta.length), i + 1 ≤ #{j | u j ≤ ((beta[i] : ℚ) : ℝ)})}
      = ENNReal.ofReal ((coverage alpha beta : ℚ) : ℝ) :=
  Opda.RectProbP.unifPi_ev hα hβ

/-- `rect_coverage_is_volume` with the order statistics `U₍ᵢ₎ = orderStat u i` (the sample composed with its sorting permutation):
`P[αᵢ ≤ U₍ᵢ₎ ≤ βᵢ for all i] = coverage α β` — the statement for which `OpdaModel/Steck.lean` cites Steck (1971). -/
theorem rect_coverage_is_volume_order_statistics (alpha beta : List ℚ) (hlen : beta.length = alpha.length)
    (hα : ∀ x ∈ alpha, 0 ≤ x ∧ x ≤ 1) (hβ : ∀ x ∈ beta, 0 ≤ x ∧ x ≤ 1) :
    (MeasureTheory.Measure.pi fun _ : Fin alpha.length =>
        (MeasureTheory.volume : MeasureTheory.Measure ℝ).restrict (Set.Icc 0 1))
      {u : Fin alpha.length → ℝ | ∀ i : Fin alpha.length,
        ((alpha[i] : ℚ) : ℝ) ≤ orderStat u i ∧ orderStat u i ≤ ((beta[i.val]'(hlen.symm ▸ i.isLt) : ℚ) : ℝ)}
      = ENNReal.ofReal ((coverage alpha beta : ℚ) : ℝ) :=
  Opda.RectProbP.unifPi_rect alpha beta hlen hα hβ

/-- the order statistics are the sample in non-decreasing order -/
theorem orderStat_monotone {n : ℕ} (u : Fin n → ℝ) : Monotone (orderStat u) := Opda.RectProbP.orderStat_mono u

/-- `U₍ᵢ₎ ≤ t` iff at least `i + 1` sample points are `≤ t` -/
theorem orderStat_le_iff_count {n : ℕ} (u : Fin n → ℝ) (i : Fin n) (t : ℝ) :
    orderStat u i ≤ t ↔ i.val + 1 ≤ #{j | u j ≤ t} := Opda.RectProbP.orderStat_le_iff u i t

/-- `t ≤ U₍ᵢ₎` iff at most `i` sample points are `< t` -/
theorem le_orderStat_iff_count {n : ℕ} (u : Fin n → ℝ) (i : Fin n) (t : ℝ) :
    t ≤ orderStat u i ↔ #{j | u j < t} ≤ i.val := Opda.RectProbP.le_orderStat_iff u i t

/-- for a sorted sample (as in `band_contains_iff_box`): `y i ≤ t ⇔ i < #{j | y j ≤ t}` -/
theorem sorted_le_iff_count {n : ℕ} (y : Fin n → ℝ) (hy : Monotone y) (i : Fin n) (t : ℝ) :
    y i ≤ t ↔ i.val < #{j | y j ≤ t} := (Tuple.lt_card_le_iff_apply_le_of_monotone hy).symm

/-- non-vacuity: the hypotheses hold for the level lists `[0, 1/2]`, `[1/2, 1]` -/
example : (∀ x ∈ ([0, 1/2] : List ℚ), 0 ≤ x ∧ x ≤ 1) ∧ (∀ x ∈ ([1/2, 1] : List ℚ), 0 ≤ x ∧ x ≤ 1) := by
  decide +kernel

/-- **coverage of the band = the evaluator** (reduction `band_contains_iff_box` + `rect_coverage_is_volume`): let the
level tables `L`, `U : ℕ → ℝ` satisfy `L 0 ≤ 0`, `1 ≤ U n`, and have the rational entries `L (i+1) = αᵢ`, `U i = βᵢ`
(`i < n`) in `[0,1]`.  For `n` independent uniforms `u` on `[0,1]`, the probability that the band contains the uniform
distribution function `unifCdf t = max 0 (min t 1)` at **every** `t` — `L_{k(t)} ≤ unifCdf t ≤ U_{k(t)}`, `k(t)` the
number of sample points `≤ t` (`IsCount` on the sorted sample `sortedSeq u`, exactly the left-hand side of
`band_contains_iff_box`) — equals `coverage α β`, the rational number the driver op `band.rect` returns.
(This is the case `ν` = uniform law of `band_coverage_any_continuous_F` below, and is proved as such.) -/
theorem band_coverage_is_rect_coverage (alpha beta : List ℚ) (hlen : beta.length = alpha.length)
    (hα : ∀ x ∈ alpha, 0 ≤ x ∧ x ≤ 1) (hβ : ∀ x ∈ beta, 0 ≤ x ∧ x ≤ 1)
    (L U : ℕ → ℝ) (hL0 : L 0 ≤ 0) (hUn : 1 ≤ U alpha.length)
    (hL : ∀ i (h : i < alpha.length), L (i + 1) = ((alpha[i] : ℚ) : ℝ))
    (hU : ∀ i (h : i < beta.length), U i = ((beta[i] : ℚ) : ℝ)) :
    (MeasureTheory.Measure.pi fun _ : Fin alpha.length =>
        (MeasureTheory.volume : MeasureTheory.Measure ℝ).restrict (Set.Icc 0 1))
      {u | ∀ t k, IsCount alpha.length (sortedSeq u) t k → L k ≤ unifCdf t ∧ unifCdf t ≤ U k}
      = ENNReal.ofReal ((coverage alpha beta : ℚ) : ℝ) := by
  -- the case `ν` = uniform law of `band_coverage_any_continuous_F`, whose distribution function is `unifCdf`
  have h := Opda.RectProbP.cdfPi_band (ν := (MeasureTheory.volume : MeasureTheory.Measure ℝ).restrict (Set.Icc 0 1))
    (Opda.RectProbP.cdfOf_unif ▸ Opda.RectProbP.unifCdf_cont) alpha beta hlen hα hβ L U hL0 hUn hL hU
  rwa [Opda.RectProbP.cdfOf_unif] at h

/-- `unifCdf` is the distribution function of the uniform law on `[0,1]` -/
theorem unifCdf_spec (t : ℝ) : unifCdf t = max 0 (min t 1) := rfl

/-- `sortedSeq u` lists the order statistics -/
theorem sortedSeq_spec {n : ℕ} (u : Fin n → ℝ) (i : ℕ) (h : i < n) : sortedSeq u i = orderStat u ⟨i, h⟩ :=
  Opda.RectProbP.sortedSeq_of_lt u h

/-- non-vacuity of `band_coverage_is_rect_coverage`: tables for `n = 2` satisfying all hypotheses -/
example : ∃ (alpha beta : List ℚ) (L U : ℕ → ℝ), beta.length = alpha.length
    ∧ (∀ x ∈ alpha, 0 ≤ x ∧ x ≤ 1) ∧ (∀ x ∈ beta, 0 ≤ x ∧ x ≤ 1) ∧ L 0 ≤ 0 ∧ 1 ≤ U alpha.length
    ∧ (∀ i (h : i < alpha.length), L (i + 1) = ((alpha[i] : ℚ) : ℝ))
    ∧ (∀ i (h : i < beta.length), U i = ((beta[i] : ℚ) : ℝ)) := by
  refine ⟨[0, 1/2], [1/2, 1], fun k => if k ≤ 1 then 0 else 1/2, fun k => if k = 0 then 1/2 else 1,
    rfl, by decide +kernel, by decide +kernel, le_of_eq (if_pos (Nat.zero_le 1)), le_of_eq (if_neg (by decide)).symm,
    ?_, ?_⟩
  · intro i h
    match i, h with
    | 0, _ => exact (if_pos le_rfl).trans Rat.cast_zero.symm
    | 1, _ => exact (if_neg (by decide)).trans (by norm_num)
  · intro i h
    match i, h with
    | 0, _ => exact (if_pos rfl).trans (by norm_num)
    | 1, _ => exact (if_neg (by decide)).trans Rat.cast_one.symm

end rect

section pit
open Opda.RectProb Opda.RectProbP MeasureTheory

/-- `cdfOf ν` is the distribution function `t ↦ ν (-∞, t]` (as a real number) -/
theorem cdfOf_spec (ν : Measure ℝ) (t : ℝ) : cdfOf ν t = (ν (Set.Iic t)).toReal := rfl

/-- `cdfOf ν` is Mathlib's `ProbabilityTheory.cdf ν` -/
theorem cdfOf_eq_mathlib_cdf (ν : Measure ℝ) [IsProbabilityMeasure ν] : cdfOf ν = ⇑(ProbabilityTheory.cdf ν) :=
  Opda.RectProbP.cdfOf_eq_cdf ν

/-- **probability integral transform**: if the distribution function `F = cdfOf ν` of a probability measure `ν` on `ℝ`
is continuous, the law of `F(Y)` for `Y ∼ ν` (the push-forward `ν.map F`) is the uniform law on `[0,1]`. -/
theorem pit_map (ν : Measure ℝ) [IsProbabilityMeasure ν] (hF : Continuous (cdfOf ν)) :
    ν.map (cdfOf ν) = (volume : Measure ℝ).restrict (Set.Icc 0 1) := Opda.RectProbP.pit_map hF

/-- pointwise form: `P[F(Y) ≤ t] = t` for every `t ∈ [0,1]` -/
theorem pit_sublevel (ν : Measure ℝ) [IsProbabilityMeasure ν] (hF : Continuous (cdfOf ν)) (t : ℝ)
    (ht0 : 0 ≤ t) (ht1 : t ≤ 1) : ν {y | cdfOf ν y ≤ t} = ENNReal.ofReal t :=
  (Measure.map_apply hF.measurable measurableSet_Iic).symm.trans
    (by rw [Opda.RectProbP.pit_map hF, Opda.RectProbP.unif_Iic, min_eq_left ht1])

/-- **product form**: for `n` independent draws `Y₁, …, Yₙ` from `ν` (the product measure `Measure.pi fun _ => ν`) the
vector `(F(Y₁), …, F(Yₙ))` has the law of `n` independent uniforms on `[0,1]`. -/
theorem pit_product (ν : Measure ℝ) [IsProbabilityMeasure ν] (hF : Continuous (cdfOf ν)) (n : ℕ) :
    (Measure.pi fun _ : Fin n => ν).map (fun y i => cdfOf ν (y i))
      = Measure.pi fun _ : Fin n => (volume : Measure ℝ).restrict (Set.Icc 0 1) := Opda.RectProbP.pit_pi hF n

/-- the hypothesis "continuous distribution function" is exactly "no atoms" (`ν {x} = 0` for every `x`) -/
theorem continuous_cdf_iff_no_atoms (ν : Measure ℝ) [IsProbabilityMeasure ν] :
    Continuous (cdfOf ν) ↔ ∀ x, ν {x} = 0 :=
  ⟨fun h => (Opda.RectProbP.nullSingleton_of_cdfOf_continuous ν h).measure_singleton,
   fun h => @Opda.RectProbP.cdfOf_continuous_of_nullSingleton ν _ ⟨h⟩⟩

/-- a non-decreasing map commutes with taking order statistics: `(F ∘ y)₍ᵢ₎ = F(y₍ᵢ₎)` -/
theorem orderStat_comp_monotone {n : ℕ} (F : ℝ → ℝ) (hF : Monotone F) (y : Fin n → ℝ) (i : Fin n) :
    orderStat (F ∘ y) i = F (orderStat y i) := Opda.RectProbP.orderStat_comp_mono hF y i

/-- **C01, end to end, for every continuous distribution**: let `ν` be a probability measure on `ℝ` with continuous
distribution function `F = cdfOf ν`, and let the level tables `L`, `U : ℕ → ℝ` satisfy `L 0 ≤ 0`, `1 ≤ U n` and have the
rational entries `L (i+1) = αᵢ`, `U i = βᵢ` (`i < n`) in `[0,1]`.  For `n` independent draws `y` from `ν`, the probability
that the band contains the TRUE distribution function at **every** `t` — `L_{k(t)} ≤ F t ≤ U_{k(t)}`, `k(t)` the number of
sample points `≤ t` (`IsCount` on the sorted sample `sortedSeq y`, exactly the left-hand side of `band_contains_iff_box`)
— equals `coverage α β`, the rational number the driver op `band.rect` returns; in particular it does not depend on `ν`.
Proof: almost surely `F(Yⱼ)` have no ties (they are independent uniforms, `pit_product`), so `band_contains_iff_box`
applies and, `F` being non-decreasing, `F(Y₍ᵢ₎) = (F∘Y)₍ᵢ₎`; the event is the preimage under `y ↦ F ∘ y` of the rectangle
`{αᵢ ≤ u₍ᵢ₎ ≤ βᵢ ∀ i}` whose uniform probability is `rect_coverage_is_volume_order_statistics`. -/
theorem band_coverage_any_continuous_F (ν : Measure ℝ) [IsProbabilityMeasure ν] (hF : Continuous (cdfOf ν))
    (alpha beta : List ℚ) (hlen : beta.length = alpha.length)
    (hα : ∀ x ∈ alpha, 0 ≤ x ∧ x ≤ 1) (hβ : ∀ x ∈ beta, 0 ≤ x ∧ x ≤ 1)
    (L U : ℕ → ℝ) (hL0 : L 0 ≤ 0) (hUn : 1 ≤ U alpha.length)
    (hL : ∀ i (h : i < alpha.length), L (i + 1) = ((alpha[i] : ℚ) : ℝ))
    (hU : ∀ i (h : i < beta.length), U i = ((beta[i] : ℚ) : ℝ)) :
    (Measure.pi fun _ : Fin alpha.length => ν)
      {y | ∀ t k, IsCount alpha.length (sortedSeq y) t k → L k ≤ cdfOf ν t ∧ cdfOf ν t ≤ U k}
      = ENNReal.ofReal ((coverage alpha beta : ℚ) : ℝ) :=
  Opda.RectProbP.cdfPi_band hF alpha beta hlen hα hβ L U hL0 hUn hL hU

/-- non-vacuity: the standard normal law is a probability measure with a continuous distribution function (so are all
atomless laws, `continuous_cdf_iff_no_atoms`); the table hypotheses are those of `band_coverage_is_rect_coverage`,
shown satisfiable above. -/
example : ∃ (ν : Measure ℝ) (_ : IsProbabilityMeasure ν), Continuous (cdfOf ν) :=
  ⟨ProbabilityTheory.gaussianReal 0 1, inferInstance, Opda.RectProbP.gaussian_cdfOf_continuous⟩

/-- non-vacuity with the uniform law itself -/
example : ∃ (ν : Measure ℝ) (_ : IsProbabilityMeasure ν), Continuous (cdfOf ν) :=
  ⟨(volume : Measure ℝ).restrict (Set.Icc 0 1), inferInstance,
    Opda.RectProbP.cdfOf_unif ▸ Opda.RectProbP.unifCdf_cont⟩

end pit

section beta
open Opda.RectProb Opda.RectProbP MeasureTheory Opda.BetaCheck Opda.BetaBinom
open scoped Finset

/-- **the number of draws below `t` is binomial**: for `N` independent draws from a σ-finite `ν` on `ℝ`, the probability
that at least `m` of them are `≤ t` is `Σ_{S ⊆ {1..N}, |S| ≥ m} ν(-∞,t]^{|S|} · ν(t,∞)^{N−|S|}` (the event is the
disjoint union over `S` of the boxes "exactly the coordinates in `S` are `≤ t`"; `Measure.pi_pi`). -/
theorem count_below_is_binomial (N : ℕ) (ν : Measure ℝ) [SigmaFinite ν] (t : ℝ) (m : ℕ) :
    (Measure.pi fun _ : Fin N => ν) {u | m ≤ #{j | u j ≤ t}}
      = ∑ S ∈ (Finset.univ.filter fun S : Finset (Fin N) => m ≤ #S),
          ν (Set.Iic t) ^ #S * ν (Set.Ioi t) ^ (N - #S) :=
  Opda.OrderStatBeta.pi_count_ge ν t m

/-- **distribution function of a uniform order statistic**: under the law of `N` independent uniforms on `[0,1]`, for
`k : Fin N` (0-based: `orderStat u k` is the `(k+1)`-th smallest) and `t ∈ [0,1]`,
`P[U₍ₖ₎ ≤ t] = Σ_{j=k+1}^{N} C(N,j) t^j (1−t)^{N−j}` — "at least `k+1` of the `N` points are `≤ t`"
(`orderStat_le_iff_count`), a Binomial(N,t) upper tail (`count_below_is_binomial`, grouped by `|S|`). -/
theorem uniform_order_statistic_cdf (N : ℕ) (k : Fin N) (t : ℝ) (ht0 : 0 ≤ t) (ht1 : t ≤ 1) :
    (Measure.pi fun _ : Fin N => (volume : Measure ℝ).restrict (Set.Icc 0 1)) {u | orderStat u k ≤ t}
      = ENNReal.ofReal (∑ j ∈ Finset.Icc (k.val + 1) N, (N.choose j : ℝ) * t ^ j * (1 - t) ^ (N - j)) :=
  Opda.OrderStatBeta.unif_orderStat_cdf k ht0 ht1

/-- the polynomial of `uniform_order_statistic_cdf` is `G (k+1) (N−k) t`, the Beta(k+1, N−k) distribution function of C15 (`C15.beta_cdf_model_exact`:
the term the driver evaluates in ℚ; `C15.beta_cdf_eq_integral`, `C15.beta_density_normalised`: it is the integral of the
normalised Beta density) -/
theorem order_statistic_polynomial_is_beta_cdf (N : ℕ) (k : Fin N) (t : ℝ) :
    ∑ j ∈ Finset.Icc (k.val + 1) N, (N.choose j : ℝ) * t ^ j * (1 - t) ^ (N - j) = G (k.val + 1) (N - k.val) t :=
  Opda.OrderStatBeta.sum_Icc_eq_G k t

/-- **a uniform order statistic is Beta distributed**: `P[U₍ₖ₎ ≤ t] = ∫₀ᵗ κ · s^k (1−s)^{N−1−k} ds` with
`κ = betaNorm (k+1) (N−k) = N·C(N−1,k) = 1/B(k+1, N−k)` (the density integrates to one over `[0,1]`:
`C15.beta_density_normalised`).  1-based: the `i`-th smallest of `N` independent uniforms is Beta(i, N+1−i). -/
theorem uniform_order_statistic_is_beta (N : ℕ) (k : Fin N) (t : ℝ) (ht0 : 0 ≤ t) (ht1 : t ≤ 1) :
    (Measure.pi fun _ : Fin N => (volume : Measure ℝ).restrict (Set.Icc 0 1)) {u | orderStat u k ≤ t}
      = ENNReal.ofReal (∫ s in (0:ℝ)..t,
          (betaNorm (k.val + 1) (N - k.val) : ℝ) * (s ^ k.val * (1 - s) ^ (N - 1 - k.val))) := by
  rw [uniform_order_statistic_cdf N k t ht0 ht1, order_statistic_polynomial_is_beta_cdf,
    Opda.OrderStatBeta.G_eq_integral]

/-- the normalising constant in closed form -/
theorem betaNorm_order_statistic (N : ℕ) (k : Fin N) :
    betaNorm (k.val + 1) (N - k.val) = N * Nat.choose (N - 1) k.val := by
  have h : k.val + 1 + (N - k.val) = N + 1 := by rw [Nat.add_right_comm, Nat.add_sub_cancel' k.isLt.le]
  rw [betaNorm_eq, h]
  rfl

/-- **the coverage of a simulated order statistic is Beta distributed**: let `ν` be a
probability measure on `ℝ` with continuous distribution function `F = cdfOf ν` — for the ld methods, the law of the
test statistic `T = max_i cov_i(U₍ᵢ₎)`, whose distribution function at a critical value is the coverage of the band
with that critical value (`ld_box_iff_stat`).  For `N` independent draws `T₁..T_N` from `ν` and `k : Fin N`,
`P[F(T₍ₖ₎) ≤ t] = ∫₀ᵗ betaPDF(k+1, N−k)` for `t ∈ [0,1]`: the coverage obtained by using the `(k+1)`-th smallest
simulated statistic as critical value follows Beta(k+1, N−k) (1-based: `F(T_(i)) ∼ Beta(i, N+1−i)`), whatever `ν` is.
Proof: `pit_product`, `orderStat_comp_monotone`, `uniform_order_statistic_is_beta`.
What this does NOT say: that the law of the code's statistic has a continuous distribution function (hypothesis `hF`),
nor that `np.quantile(ts, confidence)` is exactly an order statistic — it is a linear interpolation between two adjacent
ones, see `interpolated_critical_value_coverage_between_betas`. -/
theorem simulated_critical_value_coverage_is_beta (ν : Measure ℝ) [IsProbabilityMeasure ν]
    (hF : Continuous (cdfOf ν)) (N : ℕ) (k : Fin N) (t : ℝ) (ht0 : 0 ≤ t) (ht1 : t ≤ 1) :
    (Measure.pi fun _ : Fin N => ν) {y | cdfOf ν (orderStat y k) ≤ t}
      = ENNReal.ofReal (∫ s in (0:ℝ)..t,
          (betaNorm (k.val + 1) (N - k.val) : ℝ) * (s ^ k.val * (1 - s) ^ (N - 1 - k.val))) :=
  (Opda.OrderStatBeta.cdf_orderStat_eq_unif hF k t).trans (uniform_order_statistic_is_beta N k t ht0 ht1)

/-- `simulated_critical_value_coverage_is_beta` with the binomial-tail polynomial (the exact-ℚ term `beta.cdf` of the driver, `C15.beta_cdf_model_exact`) -/
theorem simulated_critical_value_coverage_cdf (ν : Measure ℝ) [IsProbabilityMeasure ν]
    (hF : Continuous (cdfOf ν)) (N : ℕ) (k : Fin N) (t : ℝ) (ht0 : 0 ≤ t) (ht1 : t ≤ 1) :
    (Measure.pi fun _ : Fin N => ν) {y | cdfOf ν (orderStat y k) ≤ t}
      = ENNReal.ofReal (∑ j ∈ Finset.Icc (k.val + 1) N, (N.choose j : ℝ) * t ^ j * (1 - t) ^ (N - j)) :=
  (Opda.OrderStatBeta.cdf_orderStat_eq_unif hF k t).trans (uniform_order_statistic_cdf N k t ht0 ht1)

/-- **the interpolated quantile the code uses**: `np.quantile(ts, q)` (default `method="linear"`) returns
`T₍ₖ₎ + λ (T₍ₖ₊₁₎ − T₍ₖ₎)` with, 0-based, `k = ⌊q(N−1)⌋` and `λ = q(N−1) − k ∈ [0,1)` (1-based: between the `k`-th and
`(k+1)`-th smallest with `k = ⌊q(N−1)⌋+1`; this description of numpy is NOT formalised).  For any `k ≤ k'`, `λ ∈ [0,1]`,
the coverage `F(c)` of `c = T₍ₖ₎ + λ (T₍ₖ'₎ − T₍ₖ₎)` satisfies `F(T₍ₖ₎) ≤ F(c) ≤ F(T₍ₖ'₎)`, hence its distribution
function is bracketed by those of the two Beta laws:
`BetaCDF(k'+1, N−k')(t) ≤ P[F(c) ≤ t] ≤ BetaCDF(k+1, N−k)(t)`.  Nothing more is claimed: the coverage of the code's
critical value is NOT itself Beta distributed; it lies between two such variables, which is why the harness accepts
the lower quantile of the smaller law up to the upper quantile of the larger one. -/
theorem interpolated_critical_value_coverage_between_betas (ν : Measure ℝ) [IsProbabilityMeasure ν]
    (hF : Continuous (cdfOf ν)) (N : ℕ) (k k' : Fin N) (hkk : k ≤ k') (lam : ℝ) (h0 : 0 ≤ lam) (h1 : lam ≤ 1)
    (t : ℝ) (ht0 : 0 ≤ t) (ht1 : t ≤ 1) :
    ENNReal.ofReal (G (k'.val + 1) (N - k'.val) t)
        ≤ (Measure.pi fun _ : Fin N => ν) {y | cdfOf ν (orderStat y k + lam * (orderStat y k' - orderStat y k)) ≤ t}
      ∧ (Measure.pi fun _ : Fin N => ν) {y | cdfOf ν (orderStat y k + lam * (orderStat y k' - orderStat y k)) ≤ t}
        ≤ ENNReal.ofReal (G (k.val + 1) (N - k.val) t) :=
  Opda.OrderStatBeta.coverage_between_betas hF k k' _
    (fun y => mul_comm lam (orderStat y k' - orderStat y k) ▸
      Opda.Small.lerp_mem (Opda.RectProbP.orderStat_mono y hkk) h0 h1) ht0 ht1

/-- the general form: any critical value `c(T)` with `T₍ₖ₎ ≤ c(T) ≤ T₍ₖ'₎` for every sample -/
theorem critical_value_between_order_statistics (ν : Measure ℝ) [IsProbabilityMeasure ν]
    (hF : Continuous (cdfOf ν)) (N : ℕ) (k k' : Fin N) (c : (Fin N → ℝ) → ℝ)
    (hc : ∀ y, orderStat y k ≤ c y ∧ c y ≤ orderStat y k') (t : ℝ) (ht0 : 0 ≤ t) (ht1 : t ≤ 1) :
    ENNReal.ofReal (G (k'.val + 1) (N - k'.val) t) ≤ (Measure.pi fun _ : Fin N => ν) {y | cdfOf ν (c y) ≤ t}
      ∧ (Measure.pi fun _ : Fin N => ν) {y | cdfOf ν (c y) ≤ t} ≤ ENNReal.ofReal (G (k.val + 1) (N - k.val) t) :=
  Opda.OrderStatBeta.coverage_between_betas hF k k' c hc ht0 ht1

/-- non-vacuity at the code's size: `N = 100 000` trials, `confidence = 0.95`: `k = ⌊0.95·99 999⌋ = 94 999` (0-based) and
`k' = 95 000`, `λ = 0.05`, a law with continuous distribution function (standard normal), a level `t ∈ [0,1]` -/
example : ∃ (ν : Measure ℝ) (_ : IsProbabilityMeasure ν) (N : ℕ) (k k' : Fin N) (lam t : ℝ),
    Continuous (cdfOf ν) ∧ k ≤ k' ∧ 0 ≤ lam ∧ lam ≤ 1 ∧ 0 ≤ t ∧ t ≤ 1 :=
  ⟨ProbabilityTheory.gaussianReal 0 1, inferInstance, 100000, ⟨94999, by decide⟩, ⟨95000, by decide⟩, 1/20, 19/20,
    Opda.RectProbP.gaussian_cdfOf_continuous, Fin.mk_le_mk.2 (by decide), by norm_num, by norm_num, by norm_num,
    by norm_num⟩

/-- a worked value: the smaller of two independent uniforms is `≤ 1/2` with probability `3/4` -/
example : (Measure.pi fun _ : Fin 2 => (volume : Measure ℝ).restrict (Set.Icc 0 1)) {u | orderStat u 0 ≤ 1/2}
    = ENNReal.ofReal (3/4) := by
  rw [uniform_order_statistic_cdf 2 0 (1/2) one_half_pos.le (half_le_self zero_le_one),
    show Finset.Icc ((0 : Fin 2).val + 1) 2 = {1, 2} from rfl, Finset.sum_pair (by decide)]
  norm_num [Nat.choose]

end beta

section ldstat
open Opda.RectProb Opda.RectProbP MeasureTheory Opda.BetaCheck Opda.BetaBinom Opda.LdStat

/-- the simulated statistic: `ldStat c u = max_i c_i(u₍ᵢ₎)` over the `n ≥ 1` order statistics of `u` -/
theorem ldStat_spec (n : ℕ) [NeZero n] (c : Fin n → ℝ → ℝ) (u : Fin n → ℝ) :
    ldStat c u = Finset.univ.sup' Finset.univ_nonempty fun i => c i (orderStat u i) := rfl

/-- `T ≤ t` iff every `cov_i(U₍ᵢ₎) ≤ t` — the right-hand side of `ld_box_iff_stat` -/
theorem ld_statistic_le_iff (n : ℕ) [NeZero n] (c : Fin n → ℝ → ℝ) (u : Fin n → ℝ) (t : ℝ) :
    ldStat c u ≤ t ↔ ∀ i, c i (orderStat u i) ≤ t := ldStat_le_iff c u t

/-- `ldLaw c`: the law of `ldStat c` under `n` independent uniforms on `[0,1]` -/
theorem ldLaw_spec (n : ℕ) [NeZero n] (c : Fin n → ℝ → ℝ) :
    ldLaw c = (Measure.pi fun _ : Fin n => (volume : Measure ℝ).restrict (Set.Icc 0 1)).map (ldStat c) := rfl

/-- **the simulated statistic has no atoms**: let `c i : ℝ → ℝ` (`i < n`, `n ≥ 1`) be any functions whose level sets inside
`[0,1]` are finite.  Under the law of `n` independent uniforms on `[0,1]`, `P[max_i c_i(U₍ᵢ₎) = t] = 0` for every `t`.
Proof: `T(u) = t` forces some `c_i(u₍ᵢ₎) = t`, so some coordinate `u_j = u₍ᵢ₎` lies outside `[0,1]` or in one of the `n`
finite level sets — a null set for the uniform law of that coordinate (`Measure.pi_eval_preimage_null`). -/
theorem ld_statistic_no_atoms (n : ℕ) [NeZero n] (c : Fin n → ℝ → ℝ)
    (hlev : ∀ i t, {x | x ∈ Set.Icc (0:ℝ) 1 ∧ c i x = t}.Finite) (t : ℝ) :
    (Measure.pi fun _ : Fin n => (volume : Measure ℝ).restrict (Set.Icc 0 1)) {u | ldStat c u = t} = 0 :=
  Opda.LdStat.ldStat_no_atoms_of_null c (fun i t => (hlev i t).measure_zero _) t

/-- `ld_statistic_no_atoms` under the weaker hypothesis that the level sets inside `[0,1]` are Lebesgue-null (e.g. countable) -/
theorem ld_statistic_no_atoms_of_null_level_sets (n : ℕ) [NeZero n] (c : Fin n → ℝ → ℝ)
    (hlev : ∀ i t, (volume : Measure ℝ) {x | x ∈ Set.Icc (0:ℝ) 1 ∧ c i x = t} = 0) (t : ℝ) :
    (Measure.pi fun _ : Fin n => (volume : Measure ℝ).restrict (Set.Icc 0 1)) {u | ldStat c u = t} = 0 :=
  Opda.LdStat.ldStat_no_atoms_of_null c hlev t

/-- for measurable `c i` the law of the statistic is a probability measure on `ℝ` -/
theorem ld_law_is_probability_measure (n : ℕ) [NeZero n] (c : Fin n → ℝ → ℝ) (hc : ∀ i, Measurable (c i)) :
    IsProbabilityMeasure (ldLaw c) := ldLaw_isProbabilityMeasure hc

/-- the distribution function of the law of the statistic at `t` is `P[cov_i(U₍ᵢ₎) ≤ t ∀ i]` — by `ld_box_iff_stat` the
probability that the uniform order statistics pass through all pointwise intervals at critical value `t`, i.e. the
coverage of the ld band with that critical value -/
theorem ld_law_cdf_is_band_coverage (n : ℕ) [NeZero n] (c : Fin n → ℝ → ℝ) (hc : ∀ i, Measurable (c i)) (t : ℝ) :
    cdfOf (ldLaw c) t
      = ((Measure.pi fun _ : Fin n => (volume : Measure ℝ).restrict (Set.Icc 0 1))
          {u | ∀ i, c i (orderStat u i) ≤ t}).toReal := ldLaw_cdf hc t

/-- the distribution function of the law of the statistic is **continuous** — the hypothesis `hF` of the Beta-law
theorems above — for every family of measurable coverage functions with finite level sets in `[0,1]`. -/
theorem ld_statistic_cdf_continuous (n : ℕ) [NeZero n] (c : Fin n → ℝ → ℝ) (hc : ∀ i, Measurable (c i))
    (hlev : ∀ i t, {x | x ∈ Set.Icc (0:ℝ) 1 ∧ c i x = t}.Finite) :
    Continuous (cdfOf (ldLaw c)) := ldLaw_cdf_continuous hc hlev

/-- the equal-tailed coverage function of C15 (`C15.equal_tailed`: `x ∈ I(c) ↔ etCov G x ≤ c`) -/
theorem etCov_spec (G : ℝ → ℝ) (x : ℝ) : etCov G x = 2 * |1 / 2 - G x| := rfl

/-- **equal-tailed level sets**: for `G` strictly increasing on `[0,1]`, `{x ∈ [0,1] | 2·|1/2 − G x| = t}` has at most two
points (`G x = 1/2 ∓ t/2`) -/
theorem equal_tailed_level_sets (G : ℝ → ℝ) (hG : StrictMonoOn G (Set.Icc 0 1)) (t : ℝ) :
    {x | x ∈ Set.Icc (0:ℝ) 1 ∧ etCov G x = t}.Finite ∧ {x | x ∈ Set.Icc (0:ℝ) 1 ∧ etCov G x = t}.encard ≤ 2 :=
  ⟨etCov_level_finite hG t, etCov_level_card_le_two hG t⟩

/-- **equal-tailed instance**: any measurable `G i` strictly increasing on `[0,1]` -/
theorem ld_equal_tailed_statistic_cdf_continuous (n : ℕ) [NeZero n] (G : Fin n → ℝ → ℝ) (hm : ∀ i, Measurable (G i))
    (hG : ∀ i, StrictMonoOn (G i) (Set.Icc 0 1)) :
    Continuous (cdfOf (ldLaw fun i => etCov (G i))) := etLaw_cdf_continuous hm hG

/-- the Beta(a,b) distribution function of C15 (`G a b`, the binomial tail polynomial) is strictly increasing on `[0,1]`
for `a, b ≥ 1` and continuous -/
theorem beta_cdf_strictly_increasing (a b : ℕ) (ha : 0 < a) (hb : 0 < b) :
    StrictMonoOn (G a b) (Set.Icc 0 1) ∧ Continuous (G a b) := ⟨G_strictMonoOn a b ha hb, continuous_G a b⟩

/-- the coverage functions of `ld_equal_tailed`: `betaEtCov n i x = 2·|1/2 − BetaCDF(i+1, n−i)(x)|`, `i` 0-based -/
theorem betaEtCov_spec (n : ℕ) (i : Fin n) (x : ℝ) :
    betaEtCov n i x = 2 * |1 / 2 - G (i.val + 1) (n - i.val) x| := rfl

/-- **the statistic of `ld_equal_tailed` has a continuous distribution function**, for every `n ≥ 1`, unconditionally -/
theorem ld_equal_tailed_cdf_continuous (n : ℕ) [NeZero n] : Continuous (cdfOf (ldLaw (betaEtCov n))) :=
  betaEt_cdf_continuous n

/-- **any family with finite level sets — the form that covers both ld families**: the Beta law of the coverage of a
simulated order statistic for every family of measurable coverage functions with finite level sets in `[0,1]`.  For the
highest-density family (coverage of the smallest highest-density interval containing `x`, `Opda.BetaHdV.hdcov`, C15
`hdcov_spec`) the finiteness `hlev` is a theorem (`ld_highest_density_coverage_functions_v_shaped`: strictly decreasing left
of the mode, strictly increasing right of it); the hypothesis-free instances are
`ld_equal_tailed_critical_value_coverage_is_beta` and `ld_highest_density_critical_value_coverage_is_beta` below. -/
theorem ld_critical_value_coverage_is_beta_of_finite_level_sets (n : ℕ) [NeZero n] (c : Fin n → ℝ → ℝ)
    (hc : ∀ i, Measurable (c i)) (hlev : ∀ i t, {x | x ∈ Set.Icc (0:ℝ) 1 ∧ c i x = t}.Finite)
    (N : ℕ) (k : Fin N) (t : ℝ) (ht0 : 0 ≤ t) (ht1 : t ≤ 1) :
    (Measure.pi fun _ : Fin N => ldLaw c) {y | cdfOf (ldLaw c) (orderStat y k) ≤ t}
      = ENNReal.ofReal (∫ s in (0:ℝ)..t,
          (betaNorm (k.val + 1) (N - k.val) : ℝ) * (s ^ k.val * (1 - s) ^ (N - 1 - k.val))) :=
  haveI := ldLaw_isProbabilityMeasure hc
  simulated_critical_value_coverage_is_beta _ (ldLaw_cdf_continuous hc hlev) N k t ht0 ht1

/-- **`simulated_critical_value_coverage_is_beta` without the continuity hypothesis, for `ld_equal_tailed`**: let `ν` be
the law of `T = max_i 2·|1/2 − BetaCDF(i+1, n−i)(U₍ᵢ₎)|` for `n ≥ 1` independent uniforms and `F` its distribution function
(`F t` = coverage of the band with critical value `t`, `ld_law_cdf_is_band_coverage`).  For `N` independent draws `T₁..T_N`
of the statistic and `k : Fin N`, `P[F(T₍ₖ₎) ≤ t] = ∫₀ᵗ betaPDF(k+1, N−k)` for `t ∈ [0,1]`.
Still outside: that the code's floats realise these real functions, and `np.quantile` (next theorem). -/
theorem ld_equal_tailed_critical_value_coverage_is_beta (n : ℕ) [NeZero n] (N : ℕ) (k : Fin N) (t : ℝ)
    (ht0 : 0 ≤ t) (ht1 : t ≤ 1) :
    (Measure.pi fun _ : Fin N => ldLaw (betaEtCov n)) {y | cdfOf (ldLaw (betaEtCov n)) (orderStat y k) ≤ t}
      = ENNReal.ofReal (∫ s in (0:ℝ)..t,
          (betaNorm (k.val + 1) (N - k.val) : ℝ) * (s ^ k.val * (1 - s) ^ (N - 1 - k.val))) :=
  ld_critical_value_coverage_is_beta_of_finite_level_sets n _ (betaEt_measurable n) (betaEt_level_finite n) N k t ht0 ht1

/-- the bracket for the interpolated quantile (`interpolated_critical_value_coverage_between_betas`) for `ld_equal_tailed`,
unconditionally -/
theorem ld_equal_tailed_interpolated_critical_value_between_betas (n : ℕ) [NeZero n] (N : ℕ) (k k' : Fin N)
    (hkk : k ≤ k') (lam : ℝ) (h0 : 0 ≤ lam) (h1 : lam ≤ 1) (t : ℝ) (ht0 : 0 ≤ t) (ht1 : t ≤ 1) :
    ENNReal.ofReal (G (k'.val + 1) (N - k'.val) t)
        ≤ (Measure.pi fun _ : Fin N => ldLaw (betaEtCov n))
            {y | cdfOf (ldLaw (betaEtCov n)) (orderStat y k + lam * (orderStat y k' - orderStat y k)) ≤ t}
      ∧ (Measure.pi fun _ : Fin N => ldLaw (betaEtCov n))
            {y | cdfOf (ldLaw (betaEtCov n)) (orderStat y k + lam * (orderStat y k' - orderStat y k)) ≤ t}
        ≤ ENNReal.ofReal (G (k.val + 1) (N - k.val) t) :=
  haveI := ldLaw_isProbabilityMeasure (betaEt_measurable n)
  interpolated_critical_value_coverage_between_betas _ (betaEt_cdf_continuous n) N k k' hkk lam h0 h1 t ht0 ht1

/-- a function strictly decreasing on `[0,m]` and strictly increasing on `[m,1]` (the shape of both coverage functions:
about the median for equal-tailed, about the mode for highest-density) has finite level sets in `[0,1]` -/
theorem v_shaped_level_sets (c : ℝ → ℝ) (m : ℝ) (hl : StrictAntiOn c (Set.Icc 0 m)) (hr : StrictMonoOn c (Set.Icc m 1))
    (t : ℝ) : {x | x ∈ Set.Icc (0:ℝ) 1 ∧ c x = t}.Finite := vShape_level_finite hl hr t

/-- the statistic of every measurable V-shaped family has a continuous distribution function (`v_shaped_level_sets`) -/
theorem ld_v_shaped_statistic_cdf_continuous (n : ℕ) [NeZero n] (c : Fin n → ℝ → ℝ) (hc : ∀ i, Measurable (c i))
    (m : Fin n → ℝ) (hl : ∀ i, StrictAntiOn (c i) (Set.Icc 0 (m i))) (hr : ∀ i, StrictMonoOn (c i) (Set.Icc (m i) 1)) :
    Continuous (cdfOf (ldLaw c)) := vShapeLaw_cdf_continuous hc m hl hr

/-- the coverage functions of `ld_highest_density`: `betaHdCov n i = hdcov (i+1) (n−i)`, `i` 0-based — the mass under
Beta(i+1, n−i) of the level set of its density through `x` (C15 `hdcov_spec`), i.e. of the smallest highest-density interval
containing `x` (C15 `hd_coverage_is_mass_of_shortest_interval_left/right`) -/
theorem betaHdCov_spec (n : ℕ) (i : Fin n) : Opda.BetaHdV.betaHdCov n i = Opda.BetaHdV.hdcov (i.val + 1) (n - i.val) := rfl

/-- **the shape of the highest-density coverage functions**: for `n ≥ 2` every coverage function of `ld_highest_density` is measurable, strictly
decreasing on `[0, mᵢ]` and strictly increasing on `[mᵢ, 1]`, `mᵢ = i/(n−1)` the mode of Beta(i+1, n−i) (for `i = 0` and
`i = n−1` the density is monotone, `mᵢ` is an end point and the function is strictly monotone on `[0,1]`); hence its level
sets in `[0,1]` have at most two points -/
theorem ld_highest_density_coverage_functions_v_shaped (n : ℕ) (hn : 2 ≤ n) (i : Fin n) :
    Measurable (Opda.BetaHdV.betaHdCov n i)
      ∧ Opda.BetaHdV.betaHdMode n i = (i.val : ℝ) / ((n : ℝ) - 1)
      ∧ StrictAntiOn (Opda.BetaHdV.betaHdCov n i) (Set.Icc 0 (Opda.BetaHdV.betaHdMode n i))
      ∧ StrictMonoOn (Opda.BetaHdV.betaHdCov n i) (Set.Icc (Opda.BetaHdV.betaHdMode n i) 1)
      ∧ ∀ t, {x | x ∈ Set.Icc (0:ℝ) 1 ∧ Opda.BetaHdV.betaHdCov n i x = t}.Finite :=
  ⟨Opda.BetaHdV.betaHd_measurable n hn i, Opda.BetaHdV.betaHdMode_eq n i, Opda.BetaHdV.betaHd_strictAntiOn n hn i,
   Opda.BetaHdV.betaHd_strictMonoOn n hn i, Opda.BetaHdV.betaHd_level_finite n hn i⟩

/-- **the statistic of `ld_highest_density` has a continuous distribution function**, for every `n ≥ 2`, unconditionally
(`ld_v_shaped_statistic_cdf_continuous` instantiated with `c i = hdcov (i+1) (n−i)`) -/
theorem ld_highest_density_cdf_continuous (n : ℕ) [NeZero n] (hn : 2 ≤ n) :
    Continuous (cdfOf (ldLaw (Opda.BetaHdV.betaHdCov n))) := Opda.BetaHdV.betaHd_cdf_continuous n hn

/-- **`simulated_critical_value_coverage_is_beta` without the continuity hypothesis, for `ld_highest_density`**: let `ν` be
the law of `T = max_i hdcov(i+1, n−i)(U₍ᵢ₎)` for `n ≥ 2` independent uniforms and `F` its distribution function (`F t` =
coverage of the band with critical value `t`, `ld_law_cdf_is_band_coverage`).  For `N` independent draws `T₁..T_N` of the
statistic and `k : Fin N`, `P[F(T₍ₖ₎) ≤ t] = ∫₀ᵗ betaPDF(k+1, N−k)` for `t ∈ [0,1]`.
Still outside: that the code's floats (scipy `beta.cdf/pdf`, float bisection for the partner) realise these real functions,
and `np.quantile` (next theorem). -/
theorem ld_highest_density_critical_value_coverage_is_beta (n : ℕ) [NeZero n] (hn : 2 ≤ n) (N : ℕ) (k : Fin N) (t : ℝ)
    (ht0 : 0 ≤ t) (ht1 : t ≤ 1) :
    (Measure.pi fun _ : Fin N => ldLaw (Opda.BetaHdV.betaHdCov n))
        {y | cdfOf (ldLaw (Opda.BetaHdV.betaHdCov n)) (orderStat y k) ≤ t}
      = ENNReal.ofReal (∫ s in (0:ℝ)..t,
          (betaNorm (k.val + 1) (N - k.val) : ℝ) * (s ^ k.val * (1 - s) ^ (N - 1 - k.val))) :=
  ld_critical_value_coverage_is_beta_of_finite_level_sets n _ (Opda.BetaHdV.betaHd_measurable n hn)
    (Opda.BetaHdV.betaHd_level_finite n hn) N k t ht0 ht1

/-- the bracket for the interpolated quantile (`interpolated_critical_value_coverage_between_betas`) for
`ld_highest_density`, unconditionally -/
theorem ld_highest_density_interpolated_critical_value_between_betas (n : ℕ) [NeZero n] (hn : 2 ≤ n) (N : ℕ)
    (k k' : Fin N) (hkk : k ≤ k') (lam : ℝ) (h0 : 0 ≤ lam) (h1 : lam ≤ 1) (t : ℝ) (ht0 : 0 ≤ t) (ht1 : t ≤ 1) :
    ENNReal.ofReal (G (k'.val + 1) (N - k'.val) t)
        ≤ (Measure.pi fun _ : Fin N => ldLaw (Opda.BetaHdV.betaHdCov n))
            {y | cdfOf (ldLaw (Opda.BetaHdV.betaHdCov n)) (orderStat y k + lam * (orderStat y k' - orderStat y k)) ≤ t}
      ∧ (Measure.pi fun _ : Fin N => ldLaw (Opda.BetaHdV.betaHdCov n))
            {y | cdfOf (ldLaw (Opda.BetaHdV.betaHdCov n)) (orderStat y k + lam * (orderStat y k' - orderStat y k)) ≤ t}
        ≤ ENNReal.ofReal (G (k.val + 1) (N - k.val) t) :=
  haveI := ldLaw_isProbabilityMeasure (Opda.BetaHdV.betaHd_measurable n hn)
  interpolated_critical_value_coverage_between_betas _ (Opda.BetaHdV.betaHd_cdf_continuous n hn) N k k' hkk lam h0 h1 t
    ht0 ht1

/-- non-vacuity: the hypotheses of the general theorems hold for the equal-tailed family at `n = 3` -/
example : ∃ c : Fin 3 → ℝ → ℝ, (∀ i, Measurable (c i)) ∧ ∀ i t, {x | x ∈ Set.Icc (0:ℝ) 1 ∧ c i x = t}.Finite :=
  ⟨betaEtCov 3, betaEt_measurable 3, betaEt_level_finite 3⟩

/-- non-vacuity: the hypotheses of the general theorems hold for the highest-density family at `n = 3` -/
example : ∃ c : Fin 3 → ℝ → ℝ, (∀ i, Measurable (c i)) ∧ ∀ i t, {x | x ∈ Set.Icc (0:ℝ) 1 ∧ c i x = t}.Finite :=
  ⟨Opda.BetaHdV.betaHdCov 3, Opda.BetaHdV.betaHd_measurable 3 (by norm_num),
    Opda.BetaHdV.betaHd_level_finite 3 (by norm_num)⟩

/-- non-vacuity of the V-shape hypotheses: `x ↦ |x − 1/2|` about `m = 1/2` -/
example : StrictAntiOn (fun x : ℝ => |x - 1 / 2|) (Set.Icc 0 (1 / 2))
    ∧ StrictMonoOn (fun x : ℝ => |x - 1 / 2|) (Set.Icc (1 / 2) 1) := by
  constructor
  · intro x hx y hy hxy
    show |y - 1 / 2| < |x - 1 / 2|
    rw [abs_of_nonpos (sub_nonpos.2 hx.2), abs_of_nonpos (sub_nonpos.2 hy.2)]
    exact neg_lt_neg (sub_lt_sub_right hxy _)
  · intro x hx y hy hxy
    show |x - 1 / 2| < |y - 1 / 2|
    rw [abs_of_nonneg (sub_nonneg.2 hx.1), abs_of_nonneg (sub_nonneg.2 hy.1)]
    exact sub_lt_sub_right hxy _

end ldstat

end Opda.Props.C01

#opda_audit Opda.Props.C01

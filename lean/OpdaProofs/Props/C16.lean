import OpdaProofs.Audit
import OpdaProofs.BetaBinom
import OpdaProofs.DkwEps
import OpdaProofs.NormalSpec
import OpdaProofs.SortFirst
import OpdaProofs.ExtInst
import OpdaModel.Drv.Utils
/-!
# C16 — Clopper–Pearson, DKW epsilon, normal helpers, sort_by_first

Property theorems; short proofs stand under their statements here, the lemmas live in
`OpdaProofs/{BetaBinom,DkwEps,NormalSpec,SortFirst}.lean`.

* **Clopper–Pearson.** `cp_check_sound` is the theorem the check relies on: the executable, exact-ℚ
  checker `Opda.BetaBinom.cpCheck` run by the driver on the implementation's *actual* table
  (`n+1` lower and upper end points read as exact rationals) implies coverage `≥ 1 − α − 2δ` for
  **every real** `p ∈ [0,1]`; nothing is sampled in `p`.  `cp_tail_is_binomial_sum`/`cp_model_exact` tie
  the recursively defined tail to the binomial sum and to the term the driver evaluates.
* **dkw_epsilon**: the closed form satisfies the defining identity, is monotone in the confidence,
  antitone in `n`, non-negative, and unbounded as the confidence tends to one.
* **normal helpers** (over ℝ; the float accuracy clauses `1e-15`, `1e-7` are compared with mpmath, not proved):
  `Φ` of the Gaussian measure is continuous, strictly increasing, `Φ' = φ`, `Φ = ½(1+erf(·/√2))`,
  `Φ ∘ Φ⁻¹ = id` on `(0,1)`, Galois law, `±∞` end points.
* **sort_by_first**: the model's outputs are the inputs gathered at one permutation that sorts the first.
-/
namespace Opda.Props.C16
open Opda.BetaBinom Opda.CP

/-- **Soundness of the checker the driver runs** (`cp.check`): an accepted table covers the true
proportion with probability `≥ 1 − α − 2δ` for every real `p ∈ [0,1]` (`pmf n k p = P[Bin(n,p) = k]`). -/
theorem cp_check_sound (n : ℕ) (lo hi : List ℚ) (α δ : ℚ) (h : cpCheck n lo hi α δ = true)
    (p : ℝ) (hp0 : 0 ≤ p) (hp1 : p ≤ 1) :
    1 - (α : ℝ) - 2 * (δ : ℝ) ≤ ∑ k ∈ Finset.range (n+1),
      (if ((lo.getD k 0 : ℚ) : ℝ) ≤ p ∧ p ≤ ((hi.getD k 0 : ℚ) : ℝ) then pmf n k p else 0) :=
  Opda.BetaBinomP.cpCheck_sound n lo hi α δ h p hp0 hp1

/-- The mathematical statement behind it: monotone end points and `2n` exact tail inequalities give
coverage for every `p`. -/
theorem cp_coverage_all_p (n : ℕ) (lo hi : ℕ → ℝ) (α δ : ℝ)
    (hlo_mono : ∀ j k, j ≤ k → k ≤ n → lo j ≤ lo k) (hhi_mono : ∀ j k, j ≤ k → k ≤ n → hi j ≤ hi k)
    (hlo01 : ∀ k, k ≤ n → 0 ≤ lo k ∧ lo k ≤ 1) (hhi01 : ∀ k, k ≤ n → 0 ≤ hi k ∧ hi k ≤ 1)
    (hlo0 : lo 0 ≤ 0) (hhin : 1 ≤ hi n)
    (hlo : ∀ k, 1 ≤ k → k ≤ n → tail n k (lo k) ≤ α / 2 + δ)
    (hhi : ∀ k, k < n → 1 - tail n (k+1) (hi k) ≤ α / 2 + δ)
    (hα : 0 ≤ α / 2 + δ) (p : ℝ) (hp0 : 0 ≤ p) (hp1 : p ≤ 1) :
    1 - α - 2 * δ ≤ ∑ k ∈ Finset.range (n+1), (if lo k ≤ p ∧ p ≤ hi k then pmf n k p else 0) :=
  cp_coverage n lo hi α δ hlo_mono hhi_mono hlo01 hhi01 hlo0 hhin hlo hhi hα p hp0 hp1

/-- `tail n k p` (defined by conditioning on one trial) is the binomial sum `Σ_{j≥k} C(n,j) p^j (1−p)^{n−j}`. -/
theorem cp_tail_is_binomial_sum (n k : ℕ) (p : ℝ) :
    tail n k p = ∑ j ∈ Finset.Ico k (n + 1), (Nat.choose n j : ℝ) * p ^ j * (1 - p) ^ (n - j) :=
  Opda.BetaBinomP.tail_eq_sum n k p

/-- `pmf n k p` is the binomial probability mass `C(n,k) p^k (1−p)^{n−k}`. -/
theorem cp_pmf_is_binomial (n k : ℕ) (p : ℝ) :
    pmf n k p = (Nat.choose n k : ℝ) * p ^ k * (1 - p) ^ (n - k) := Opda.BetaBinomP.pmf_eq n k p

/-- The exact-ℚ term the driver evaluates (one Horner pass over ℕ) *is* the real binomial tail. -/
theorem cp_model_exact (n k : ℕ) (p : ℚ) (h0 : 0 ≤ p) (h1 : p ≤ 1) :
    ((tailQ n k p : ℚ) : ℝ) = tail n k (p : ℝ) := Opda.BetaBinomP.tailQ_cast n k p h0 h1

/-- The binomial tail is non-decreasing in `p` (why end-point inequalities suffice). -/
theorem cp_tail_mono (n k : ℕ) (p p' : ℝ) (h0 : 0 ≤ p) (hpp : p ≤ p') (h1 : p' ≤ 1) :
    tail n k p ≤ tail n k p' := tail_mono_p n k p p' h0 hpp h1

/-- Symmetry `lo(k,n) = 1 − hi(n−k,n)` of the Spec: the defining equations are mirror images. -/
theorem cp_symmetry (n k : ℕ) (l r : ℝ) (hk : k ≤ n) :
    tail n k l = r ↔ 1 - tail n ((n - k) + 1) (1 - l) = r := by
  rw [eq_sub_of_add_eq (tail_add_tail n k (n - k + 1) l (by omega))]

/-- non-vacuity: a concrete `n = 2` table at `α = 1/10` is accepted by the checker (kernel evaluation). -/
example : cpCheck 2 [0, 1/50, 1/5] [4/5, 49/50, 1] (1/10) 0 = true := by decide +kernel

open Opda.Dkw

/-- `2·exp(−2 n ε²) = 1 − confidence` for the closed form `ε = sqrt(log(2/(1−c))/(2n))`. -/
theorem dkw_identity (n c : ℝ) (hn : 0 < n) (hc0 : 0 ≤ c) (hc1 : c < 1) :
    2 * Real.exp (-2 * n * (eps n c)^2) = 1 - c := eps_spec n c hn hc0 hc1

theorem dkw_nonneg (n c : ℝ) : 0 ≤ eps n c := eps_nonneg n c

theorem dkw_mono_confidence (n c c' : ℝ) (hn : 0 < n) (hc0 : 0 ≤ c) (hcc : c ≤ c') (hc1 : c' < 1) :
    eps n c ≤ eps n c' := eps_mono_c n c c' hn hc0 hcc hc1

theorem dkw_anti_n (n n' c : ℝ) (hn : 0 < n) (hnn : n ≤ n') (hc0 : 0 ≤ c) (hc1 : c < 1) :
    eps n' c ≤ eps n c := eps_anti_n n n' c hn hnn hc0 hc1

/-- `ε → ∞` as the confidence tends to one (the code returns `+inf` at `1`). -/
theorem dkw_unbounded (n M : ℝ) (hn : 0 < n) (hM : 0 ≤ M) (c : ℝ) (hc0 : 0 ≤ c) (hc1 : c < 1)
    (hc : 1 - c < 2 * Real.exp (-2 * n * M ^ 2)) : M < eps n c := by
  by_contra hcon
  have hsq : (eps n c) ^ 2 ≤ M ^ 2 := pow_le_pow_left₀ (eps_nonneg n c) (not_lt.mp hcon) 2
  have hexp : Real.exp (-2 * n * M ^ 2) ≤ Real.exp (-2 * n * (eps n c) ^ 2) :=
    Real.exp_le_exp.mpr
      (mul_le_mul_of_nonpos_left hsq (mul_nonpos_of_nonpos_of_nonneg (neg_nonpos.mpr zero_le_two) hn.le))
  exact (hc.trans_le (mul_le_mul_of_nonneg_left hexp zero_le_two)).ne (eps_spec n c hn hc0 hc1).symm

example : ∃ n c : ℝ, 0 < n ∧ 0 ≤ c ∧ c < 1 := ⟨1, 1/2, by norm_num, by norm_num, by norm_num⟩

open Opda.Normal

theorem normal_cdf_is_gaussian_measure (x : ℝ) :
    Phi x = ((ProbabilityTheory.gaussianReal 0 1) (Set.Iic x)).toReal := rfl

/-- the formula `normal_cdf` evaluates: `Φ(x) = ½ (1 + erf(x/√2))`, `erf` defined by its integral -/
theorem normal_cdf_formula (x : ℝ) : Phi x = (1 + erfR (x / Real.sqrt 2)) / 2 := Phi_eq_erf x

/-- the formula `normal_pdf` evaluates -/
theorem normal_pdf_formula (x : ℝ) :
    phiStd x = (Real.sqrt (2 * Real.pi))⁻¹ * Real.exp (-0.5 * x ^ 2) := phiStd_closed x

theorem normal_cdf_deriv (x : ℝ) : HasDerivAt Phi (phiStd x) x := hasDerivAt_Phi x
theorem normal_cdf_strictMono : StrictMono Phi := Phi_strictMono
theorem normal_cdf_continuous : Continuous Phi := Phi_continuous
theorem normal_cdf_range (x : ℝ) : 0 < Phi x ∧ Phi x < 1 :=
  ⟨(Phi_nonneg (x - 1)).trans_lt (Phi_strictMono (sub_one_lt x)), Phi_lt_one x⟩
theorem normal_cdf_limits :
    Filter.Tendsto Phi Filter.atBot (nhds 0) ∧ Filter.Tendsto Phi Filter.atTop (nhds 1) :=
  ⟨tendsto_Phi_atBot, tendsto_Phi_atTop⟩

/-- `cdf(ppf(q)) = q` on `(0,1)` -/
theorem normal_cdf_ppf (q : ℝ) (h0 : 0 < q) (h1 : q < 1) : Phi (PhiInv q) = q := Phi_PhiInv q h0 h1
theorem normal_ppf_cdf (x : ℝ) : PhiInv (Phi x) = x := PhiInv_Phi x
theorem normal_ppf_galois (q x : ℝ) (h0 : 0 < q) (h1 : q < 1) : PhiInv q ≤ x ↔ q ≤ Phi x := by
  conv_rhs => rw [← Phi_PhiInv q h0 h1]
  exact Phi_strictMono.le_iff_le.symm

/-- `ppf(1) = +∞`: no real number attains level one; `ppf(0) = −∞`: every real number exceeds level zero -/
theorem normal_ppf_ends : {x : ℝ | 1 ≤ Phi x} = ∅ ∧ {x : ℝ | 0 ≤ Phi x} = Set.univ :=
  ⟨Set.eq_empty_of_forall_notMem fun x => (Phi_lt_one x).not_ge, Set.eq_univ_of_forall Phi_nonneg⟩

open Opda.SortFirst Opda.Wire

/-- `sorting = argsort(first)` is a permutation of the indices … -/
theorem sort_is_permutation {κ : Type} (le : κ → κ → Bool) (d : κ) (keys : List κ) :
    (argsort le d keys).Perm (List.range keys.length) := Opda.SortFirstP.argsort_perm le d keys

/-- … that sorts the first array … -/
theorem sort_first_sorted {κ : Type} [LinearOrder κ] (d : κ) (keys : List κ) :
    List.Pairwise (· ≤ ·) (gather d keys (argsort (fun a b => decide (a ≤ b)) d keys)) :=
  Opda.SortFirstP.first_sorted d keys

/-- … every array comes back as a permutation of itself … -/
theorem sort_each_permuted {κ : Type} (le : κ → κ → Bool) (d : κ) (keys col : List κ)
    (hlen : col.length = keys.length) : (gather d col (argsort le d keys)).Perm col := by
  have h := (Opda.SortFirstP.argsort_perm le d keys).map (fun i => col.getD i d)
  rwa [← hlen, Opda.SortFirstP.map_getD_range] at h

/-- … by **one** permutation: the rows across the arrays are rearranged together. -/
theorem sort_rows_permuted {κ : Type} (le : κ → κ → Bool) (d : κ) (keys : List κ) (cols : List (List κ)) :
    ((argsort le d keys).map fun i => cols.map fun c => c.getD i d).Perm
      ((List.range keys.length).map fun i => cols.map fun c => c.getD i d) :=
  Opda.SortFirstP.rows_perm le d keys cols

/-- the whole function: `()` for no arguments, `ValueError` for unequal lengths, the gathered arrays otherwise -/
theorem sort_by_first_cases {κ : Type} (le : κ → κ → Bool) (d : κ) (first : List κ) (rest : List (List κ)) :
    sortByFirst le d [] = .arrays []
      ∧ ((∃ c ∈ rest, c.length ≠ first.length) → sortByFirst le d (first :: rest) = .valueError)
      ∧ ((∀ c ∈ rest, c.length = first.length) →
          sortByFirst le d (first :: rest) = .arrays ((first :: rest).map fun c => gather d c (argsort le d first))) :=
  ⟨rfl,
   fun ⟨c, hc, hne⟩ => by
    have : rest.any (fun c => c.length != first.length) = true :=
      List.any_eq_true.2 ⟨c, hc, by simpa using hne⟩
    simp [sortByFirst, this],
   fun h => by
    have : rest.any (fun c => c.length != first.length) = false :=
      List.any_eq_false.2 fun c hc => by simpa using h c hc
    simp [sortByFirst, this]⟩

/-- the same for the very term the driver evaluates (`Ext` keys, `extLe`) -/
theorem sort_first_sorted_driver (keys : List Ext) :
    List.Pairwise (· ≤ ·) (gather (Ext.fin 0) keys (argsort Opda.Drv.Utils.extLe (Ext.fin 0) keys)) :=
  Opda.SortFirstP.first_sorted (κ := Ext) (Ext.fin 0) keys

end Opda.Props.C16

#opda_audit Opda.Props.C16

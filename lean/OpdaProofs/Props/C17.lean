import OpdaProofs.Audit
import OpdaProofs.ExchangeMono
import OpdaProofs.Minimax
import OpdaProofs.PolyQ
import OpdaProofs.RemezModel
/-!
# C17 — Remez output is a certified near-best uniform polynomial approximation

Property theorems, the short ones with their proofs; the rest is in `ExchangeMono` (weights of the reference, de la
Vallée-Poussin, weighted mean), `RemezModel` (levelling), `Minimax` (`minimaxErr`, `checkAlt_sound`), `PolyQ` (the
range certificates), `Lagrange` (model = Mathlib's interpolant).  What is decided per run is the *certificate*: the exact-rational checkers
`Remez.checkAlt`, `PolyQ.certPoly`, `PolyQ.certHalf` are evaluated by the driver on the code's actual
output; the theorems below say what an accepted certificate proves, for **every** real function inside
the enclosures, **every** competing polynomial and **every** real point of `[a,b]`.

Proved about the algorithm itself (exact arithmetic, any ordered field / ℝ):
* step 1 (levelling): `f(x_i) − p(x_i) = (−1)^i h` at all `n+2` reference points, and the denominator
  `p1(x_{n+1}) + (−1)^n` **never vanishes on a strictly increasing reference** (`levelling_denominator_ne_zero…`,
  `levelled_error…_of_strictMono`, which assume only that the reference increases);
* why step 2 (exchange) works — the code's comment "Two conditions are necessary to increase the leveled
  reference error": with the barycentric weights `w_i` of the `n+2` points (`sign w_i = (−1)^(n+1−i)`,
  `Σ w_i q(x_i) = 0` for `deg q ≤ n`) and `λ_i = |w_i|/Σ|w_j|`, the levelled error is the weighted mean
  `h = Σ λ_i (−1)^i (f(x_i) − q(x_i))` for every `q` of degree `≤ n`; if the errors of `q` alternate,
  `|h| = Σ λ_i |e_i| ∈ [min|e_i|, max|e_i|]`; hence a new ordered reference on which the old levelled polynomial
  has alternating errors `≥ |h_old|` has `|h_new| ≥ |h_old|`, strictly if one point strictly improved
  (`exchange_increases_levelled_error…`);
* the exchange keeps the reference ordered; the sandwich `|h| ≤ E_n(f;[a,b]) ≤ sup|f − p|`
  (`levelled_reference_sandwich`).

Not proved here (compared by the harness only): that the floating-point iteration converges (within the
code's 25 rounds), that the golden-section searches find the maxima of `|f − p|` on their brackets (so that the
new errors really are `≥ |h_old|` and the estimate of `sup|f − p|` is right), floating-point rounding, the
grid upper bound for non-algebraic `f`, monotonicity of the *reported* `err` in `n`, `err ≤ atol` on
exact fits.
-/
namespace Opda.Props.C17
open Polynomial Opda.Lagr Opda.Remez Opda.PolyQ Opda.Minimax Opda.Exchange
open Opda.PolyCheck (evalQ)

/-- de la Vallée-Poussin: residuals of `p` alternating with magnitude `≥ e` on `n+2` increasing points
force every polynomial of degree `≤ n` to err by at least `e` somewhere on them. -/
theorem de_la_vallee_poussin (n : ℕ) (f : ℝ → ℝ) (p q : ℝ[X]) (hp : p.natDegree ≤ n) (hq : q.natDegree ≤ n)
    (x : Fin (n+2) → ℝ) (hx : StrictMono x) (e σ : ℝ)
    (halt : ∀ i : Fin (n+2), e ≤ σ * (-1)^(i:ℕ) * (f (x i) - p.eval (x i))) (hσ : |σ| = 1) :
    ∃ i, e ≤ |f (x i) - q.eval (x i)| := dvp n f p q hp hq x hx e σ halt hσ

/-- **the checker the driver runs**: if `checkAlt` accepts the reference `rs`, the node values `pv` of
the returned polynomial, rational enclosures of `f` on the reference and the threshold
`e = err − atol − 1e-13`, then every real `f` inside the enclosures is approximated by **no** polynomial
of degree `≤ n` with uniform error below `e` on `[a,b]`. -/
theorem alternation_certifies_lower_bound (n : ℕ) (a b : ℚ) (rs pv flo fhi : List ℚ) (err atol : ℚ) (sgn : Bool)
    (h : checkAlt n a b rs pv flo fhi (threshold err atol) sgn = true)
    (f : ℝ → ℝ)
    (hf : ∀ i, i < n + 2 → ((getR flo i : ℚ) : ℝ) ≤ f (getR rs i) ∧ f (getR rs i) ≤ ((getR fhi i : ℚ) : ℝ))
    (q : ℝ[X]) (hq : q.natDegree ≤ n) :
    ∃ x : ℝ, (a : ℝ) ≤ x ∧ x ≤ (b : ℝ) ∧ ((err - atol - 1 / 10000000000000 : ℚ) : ℝ) ≤ |f x - q.eval x| :=
  checkAlt_sound n a b rs pv flo fhi (threshold err atol) sgn h f hf q hq

/-- **the checker that decides the property's lower-bound clause** (`approx.altlev`): the polynomial is
the one *the reference points define* — the exact levelled interpolant of `(rs, ym)`, `ym` rational
stand-ins for `f(r_i)` — and `f` is known only through the enclosures.  Accepted ⇒ no polynomial of
degree `≤ n` approximates any such `f` on `[a,b]` with uniform error below `err − atol − 1e-13`. -/
theorem levelled_reference_certifies_lower_bound (n : ℕ) (a b : ℚ) (rs ym flo fhi : List ℚ) (err atol : ℚ)
    (sgn : Bool) (h : checkAltLevel n a b rs ym flo fhi (threshold err atol) sgn = true)
    (f : ℝ → ℝ)
    (hf : ∀ i, i < n + 2 → ((getR flo i : ℚ) : ℝ) ≤ f (getR rs i) ∧ f (getR rs i) ≤ ((getR fhi i : ℚ) : ℝ))
    (q : ℝ[X]) (hq : q.natDegree ≤ n) :
    ∃ x : ℝ, (a : ℝ) ≤ x ∧ x ≤ (b : ℝ) ∧ ((err - atol - 1 / 10000000000000 : ℚ) : ℝ) ≤ |f x - q.eval x| :=
  checkAlt_sound n a b rs (levelPv n rs ym) flo fhi (threshold err atol) sgn h f hf q hq

/-- the polynomial certified by `checkAltLevel` is levelled: against the stand-in values its error is exactly `(−1)^i h` at
each of the `n+2` reference points (so the certified bound is `|h|` up to the enclosure width). -/
theorem levelled_reference_polynomial_error (n : ℕ) (rs ym : List ℚ)
    (hv : Set.InjOn (getR rs) (Finset.range (n + 1) : Finset ℕ))
    (hden : Lagr.eval (n + 1) (getR rs) altSign (getR rs (n + 1)) + altSign n ≠ 0) (i : ℕ) (hi : i ≤ n + 1) :
    getR ym i - Lagr.eval (n + 1) (getR rs) (getR (levelPv n rs ym)) (getR rs i)
      = altSign i * levelH n (getR rs) (getR ym) :=
  levelPv_error n rs ym hv hden i hi

/-- an accepted `checkAlt` certificate as a bound on the true minimax error `E_n(f;[a,b]) = inf_q sup_x |f − q|` -/
theorem alternation_bounds_minimax_error (n : ℕ) (a b : ℚ) (rs pv flo fhi : List ℚ) (e : ℚ) (sgn : Bool)
    (h : checkAlt n a b rs pv flo fhi e sgn = true) (f : ℝ → ℝ)
    (hf : ∀ i, i < n + 2 → ((getR flo i : ℚ) : ℝ) ≤ f (getR rs i) ∧ f (getR rs i) ≤ ((getR fhi i : ℚ) : ℝ)) :
    ENNReal.ofReal (e : ℝ) ≤ minimaxErr n f a b :=
  le_minimaxErr n f a b e fun q hq => checkAlt_sound n a b rs pv flo fhi e sgn h f hf q hq

/-- levelled interpolation (step 1 of the exchange, and the construction of the returned polynomial):
with `p0`, `p1`, `h`, `p` as in the code, `f(x_i) − p(x_i) = (−1)^i h` at all `n+2` reference points. -/
theorem levelled_error (n : ℕ) (v : ℕ → ℝ) (hv : Set.InjOn v (Finset.range (n+1) : Finset ℕ)) (f : ℝ → ℝ)
    (hden : eval (v (n+1)) (Lagrange.interpolate (Finset.range (n+1)) v (fun i => (-1:ℝ)^i)) + (-1)^n ≠ 0) :
    let p0 := Lagrange.interpolate (Finset.range (n+1)) v (fun i => f (v i))
    let p1 := Lagrange.interpolate (Finset.range (n+1)) v (fun i => (-1:ℝ)^i)
    let h := (eval (v (n+1)) p0 - f (v (n+1))) / (eval (v (n+1)) p1 + (-1)^n)
    let p := Lagrange.interpolate (Finset.range (n+1)) v (fun i => f (v i) - h * (-1)^i)
    ∀ i, i ≤ n+1 → f (v i) - eval (v i) p = (-1)^i * h :=
  Opda.Remez.levelled_error n v hv f hden

/-- the levelled error `y_i − p(x_i) = (−1)^i h` for the executable model terms (`levelH`, `levelP` run by
`approx.level`), in any field -/
theorem levelled_error_model {F : Type} [Field F] [DecidableEq F] (n : ℕ) (v y : ℕ → F)
    (hv : Set.InjOn v (Finset.range (n + 1) : Finset ℕ))
    (hden : Lagr.eval (n + 1) v altSign (v (n + 1)) + altSign n ≠ 0) (i : ℕ) (hi : i ≤ n + 1) :
    y i - levelP n v y (v i) = altSign i * levelH n v y :=
  levelP_error n v y hv hden i hi

/-- exchange bookkeeping: points moved inside the abutting half-interval brackets stay ordered and
inside `[a,b]` -/
theorem exchange_keeps_reference_ordered {α : Type} [LinearOrder α] (N : ℕ) (a b : α) (lo hi r' : ℕ → α)
    (hmem : ∀ i, i ≤ N → lo i ≤ r' i ∧ r' i ≤ hi i) (habut : ∀ i, i < N → hi i ≤ lo (i + 1))
    (ha : a ≤ lo 0) (hb : hi N ≤ b) :
    (∀ i, i < N → r' i ≤ r' (i + 1)) ∧ (∀ i, i ≤ N → a ≤ r' i ∧ r' i ≤ b) := by
  have hstep : ∀ i, i < N → r' i ≤ r' (i + 1) := fun i hi' =>
    ((hmem i hi'.le).2.trans (habut i hi')).trans (hmem (i + 1) hi').1
  have hmono : ∀ i j, i ≤ j → j ≤ N → r' i ≤ r' j := fun i j hij => by
    induction j, hij using Nat.le_induction with
    | base => exact fun _ => le_rfl
    | succ j _ ih => exact fun hj => (ih (Nat.le_of_succ_le hj)).trans (hstep j hj)
  exact ⟨hstep, fun i hi' => ⟨(ha.trans (hmem 0 (Nat.zero_le _)).1).trans (hmono 0 i (Nat.zero_le _) hi'),
    (hmono i N hi' le_rfl).trans ((hmem N le_rfl).2.trans hb)⟩⟩

/-- **continuum upper bound, polynomial `f`** (the term `approx.cpoly` evaluates): accepted ⇒ for every
real `x ∈ [a,b]`, `|f(x) − P(x)| ≤ B`, `P` the interpolant defined by the code's output. -/
theorem upper_bound_poly (n : ℕ) (v r : ℕ → ℚ) (cf : List ℚ) (B a b : ℚ) (depth S : ℕ)
    (hv : Set.InjOn v (Finset.range n : Finset ℕ))
    (h : certPoly n v r cf B a b depth S = true) (x : ℝ) (h1 : (a : ℝ) ≤ x) (h2 : x ≤ (b : ℝ)) :
    |evalQ cf x - eval x (Lagrange.interpolate (Finset.range n) (fun i => (v i : ℝ)) (fun i => (r i : ℝ)))| ≤ (B : ℝ) :=
  certPoly_sound n v r cf B a b depth S hv h x h1 h2

/-- **continuum upper bound, `f = x^(m+½)`** (the term `approx.chalf` evaluates) -/
theorem upper_bound_half_integer_power (n : ℕ) (v r : ℕ → ℚ) (m2 : ℕ) (B a b tl th : ℚ) (depth S : ℕ)
    (hv : Set.InjOn v (Finset.range n : Finset ℕ))
    (h : certHalf n v r m2 B a b tl th depth S = true) (x : ℝ) (h1 : (a : ℝ) ≤ x) (h2 : x ≤ (b : ℝ)) :
    |x ^ ((m2 : ℝ) / 2) - eval x (Lagrange.interpolate (Finset.range n) (fun i => (v i : ℝ)) (fun i => (r i : ℝ)))| ≤ (B : ℝ) := by
  simp only [certHalf, Bool.and_eq_true, decide_eq_true_eq] at h
  obtain ⟨⟨⟨⟨⟨hint, htl0⟩, htl⟩, hth0⟩, hth⟩, hchk⟩ := h
  refine cert_core _ ((coeffs n v r).map (roundTo S)) n v r B a b hv hint x _ h1 h2 ?_
  rw [abs_sub_comm]
  exact halfPower_bound_of_checkAd _ m2 depth _ tl th a b hchk htl0 htl hth0 hth x h1 h2

/-- both certificates together: `err − atol − 1e-13 ≤ E_n(f;[a,b]) ≤ err + atol + 1e-11·max|f|` is
*proved* for that instance (polynomial `f`), `e` and `B` being these two numbers as the harness passes them. -/
theorem certificates_pin_minimax_error (n : ℕ) (a b : ℚ) (rs pv flo fhi cf : List ℚ) (e B : ℚ) (sgn : Bool) (depth S : ℕ)
    (hv : Set.InjOn (getR rs) (Finset.range (n + 1) : Finset ℕ))
    (halt : checkAlt n a b rs pv flo fhi e sgn = true)
    (hf : ∀ i, i < n + 2 → ((getR flo i : ℚ) : ℝ) ≤ evalQ cf (getR rs i) ∧ evalQ cf (getR rs i) ≤ ((getR fhi i : ℚ) : ℝ))
    (hub : certPoly (n + 1) (getR rs) (getR pv) cf B a b depth S = true) :
    ENNReal.ofReal (e : ℝ) ≤ minimaxErr n (evalQ cf) a b ∧ minimaxErr n (evalQ cf) a b ≤ ENNReal.ofReal (B : ℝ) :=
  ⟨alternation_bounds_minimax_error n a b rs pv flo fhi e sgn halt _ hf,
    minimaxErr_le n _ a b B _
      (natDegree_interpolate_le n _ (fun i => ((getR pv i : ℚ) : ℝ)) (cast_injOn (n + 1) _ hv))
      fun x h1 h2 => certPoly_sound (n + 1) (getR rs) (getR pv) cf B a b depth S hv hub x h1 h2⟩

/-- the true minimax error is non-increasing in the degree -/
theorem minimax_error_antitone_in_degree (n m : ℕ) (hnm : n ≤ m) (f : ℝ → ℝ) (l r : ℝ) :
    minimaxErr m f l r ≤ minimaxErr n f l r := le_iInf₂ fun q hq => iInf₂_le q (hq.trans hnm)

/-- the true minimax error of a polynomial of degree `≤ n` is zero -/
theorem minimax_error_zero_of_polynomial (n : ℕ) (p : ℝ[X]) (hp : p.natDegree ≤ n) (l r : ℝ) :
    minimaxErr n (fun x => p.eval x) l r = 0 := by
  simpa using minimaxErr_le n (fun x => p.eval x) l r 0 p hp (fun x _ _ => by simp)


/-! `Lagr.weight (n+2) x i = 1 / Π_{j ≤ n+1, j ≠ i} (x_i − x_j)` is the code's barycentric weight on all `n+2`
reference points; "strictly increasing reference" is `StrictMonoOn x (Set.Iic (n+1))`. -/

/-- `sign w_i = (−1)^(n+1−i)` (so `(−1)^i w_i` has the constant sign `(−1)^(n+1)`) -/
theorem reference_weight_sign {F : Type} [Field F] [LinearOrder F] [IsStrictOrderedRing F] (n : ℕ) (x : ℕ → F)
    (hx : StrictMonoOn x (Set.Iic (n + 1))) (i : ℕ) (hi : i ≤ n + 1) :
    0 < (-1 : F) ^ (n + 1 - i) * weight (n + 2) x i := weight_sign hx i hi

/-- `(−1)^i w_i = (−1)^(n+1) |w_i|` -/
theorem reference_weight_alternates {F : Type} [Field F] [LinearOrder F] [IsStrictOrderedRing F] (n : ℕ) (x : ℕ → F)
    (hx : StrictMonoOn x (Set.Iic (n + 1))) (i : ℕ) (hi : i ≤ n + 1) :
    (-1 : F) ^ i * weight (n + 2) x i = (-1) ^ (n + 1) * |weight (n + 2) x i| := by
  rw [abs_weight hx i hi, alt_split n i hi, mul_mul_mul_comm, alt_sq, one_mul]

/-- the divided difference of order `n+1` annihilates every polynomial of degree `≤ n` (any field, distinct
points) -/
theorem reference_weights_annihilate_low_degree {F : Type} [Field F] (n : ℕ) (x : ℕ → F)
    (hx : Set.InjOn x (Finset.range (n + 2) : Finset ℕ)) (q : F[X]) (hq : q.natDegree ≤ n) :
    ∑ i ∈ Finset.range (n + 2), weight (n + 2) x i * q.eval (x i) = 0 := sum_weight_mul_eval n x hx q hq

/-- **the levelling denominator is non-zero on a strictly increasing reference** (any ordered field, Mathlib
interpolant): the hypothesis `hden` of `levelled_error` always holds there -/
theorem levelling_denominator_ne_zero {F : Type} [Field F] [LinearOrder F] [IsStrictOrderedRing F] (n : ℕ)
    (x : ℕ → F) (hx : StrictMonoOn x (Set.Iic (n + 1))) :
    eval (x (n + 1)) (Lagrange.interpolate (Finset.range (n + 1)) x (fun i => (-1 : F) ^ i)) + (-1) ^ n ≠ 0 :=
  den_ne_zero hx

/-- the levelling denominator of the executable model term is non-zero on a strictly increasing reference (the
hypothesis `hden` of `levelled_error_model` and `levelled_reference_polynomial_error`) -/
theorem levelling_denominator_ne_zero_model {F : Type} [Field F] [LinearOrder F] [IsStrictOrderedRing F]
    [DecidableEq F] (n : ℕ) (v : ℕ → F) (hx : StrictMonoOn v (Set.Iic (n + 1))) :
    Lagr.eval (n + 1) v altSign (v (n + 1)) + altSign n ≠ 0 := den_ne_zero_model hx

/-- `levelled_error` on a strictly increasing reference (distinctness and `hden` follow): error exactly `(−1)^i h` -/
theorem levelled_error_of_strictMono (n : ℕ) (v : ℕ → ℝ) (hx : StrictMonoOn v (Set.Iic (n + 1))) (f : ℝ → ℝ) :
    let p0 := Lagrange.interpolate (Finset.range (n+1)) v (fun i => f (v i))
    let p1 := Lagrange.interpolate (Finset.range (n+1)) v (fun i => (-1:ℝ)^i)
    let h := (eval (v (n+1)) p0 - f (v (n+1))) / (eval (v (n+1)) p1 + (-1)^n)
    let p := Lagrange.interpolate (Finset.range (n+1)) v (fun i => f (v i) - h * (-1)^i)
    ∀ i, i ≤ n+1 → f (v i) - eval (v i) p = (-1)^i * h :=
  Opda.Exchange.levelled_error_of_strictMono n v hx f

/-- `levelled_error_model` on a strictly increasing reference (distinctness and `hden` follow) -/
theorem levelled_error_model_of_strictMono {F : Type} [Field F] [LinearOrder F] [IsStrictOrderedRing F]
    [DecidableEq F] (n : ℕ) (v y : ℕ → F) (hx : StrictMonoOn v (Set.Iic (n + 1))) (i : ℕ) (hi : i ≤ n + 1) :
    y i - levelP n v y (v i) = altSign i * levelH n v y := levelP_error_of_strictMono n v y hx i hi

/-- consecutive increase `x_i < x_{i+1}`, `i ≤ n` (what `checkAlt` tests on the code's reference) is a strictly
increasing reference -/
theorem reference_strictMonoOn_of_consecutive {α : Type} [Preorder α] (n : ℕ) (x : ℕ → α)
    (h : ∀ i, i ≤ n → x i < x (i + 1)) : StrictMonoOn x (Set.Iic (n + 1)) := strictMonoOn_of_succ n x h

/-- `levelled_reference_polynomial_error` assuming only that the reference list increases -/
theorem levelled_reference_polynomial_error_of_increasing (n : ℕ) (rs ym : List ℚ)
    (hinc : ∀ i, i ≤ n → getR rs i < getR rs (i + 1)) (i : ℕ) (hi : i ≤ n + 1) :
    getR ym i - Lagr.eval (n + 1) (getR rs) (getR (levelPv n rs ym)) (getR rs i)
      = altSign i * levelH n (getR rs) (getR ym) := by
  have hx := strictMonoOn_of_succ n (getR rs) hinc
  exact levelPv_error n rs ym (injOn_of_strictMonoOn hx (n + 1) (by omega)) (den_ne_zero_model hx) i hi

/-- `λ_i = |w_i| / Σ_j |w_j|` (the definition, for the reader of the statements below) -/
theorem lambda_def {F : Type} [Field F] [LinearOrder F] [IsStrictOrderedRing F] (n : ℕ) (x : ℕ → F) (i : ℕ) :
    lam n x i = |weight (n + 2) x i| / ∑ j ∈ Finset.range (n + 2), |weight (n + 2) x j| := rfl

/-- `λ` is a strictly positive probability vector on the `n+2` reference points -/
theorem lambda_pos_sum_one {F : Type} [Field F] [LinearOrder F] [IsStrictOrderedRing F] (n : ℕ) (x : ℕ → F)
    (hx : StrictMonoOn x (Set.Iic (n + 1))) :
    (∀ i, i ≤ n + 1 → 0 < lam n x i) ∧ ∑ i ∈ Finset.range (n + 2), lam n x i = 1 :=
  ⟨lam_pos hx, lam_sum hx⟩

/-- **weighted-mean representation** (sign `s = +1` with the code's convention `f(x_i) − p(x_i) = (−1)^i h`):
whenever `(p, h)` is levelled on the ordered reference, `h = Σ λ_i (−1)^i (y_i − q(x_i))` for EVERY polynomial
`q` of degree `≤ n` (in particular `h` is determined by the reference and the values alone) -/
theorem levelled_error_weighted_mean {F : Type} [Field F] [LinearOrder F] [IsStrictOrderedRing F] (n : ℕ)
    (x : ℕ → F) (hx : StrictMonoOn x (Set.Iic (n + 1))) (y : ℕ → F) (p : F[X]) (hp : p.natDegree ≤ n) (h : F)
    (hlev : ∀ i, i ≤ n + 1 → y i - p.eval (x i) = (-1) ^ i * h) (q : F[X]) (hq : q.natDegree ≤ n) :
    h = ∑ i ∈ Finset.range (n + 2), lam n x i * ((-1) ^ i * (y i - q.eval (x i))) :=
  weighted_mean_of_levelled hx y p hp h hlev q hq

/-- the weighted-mean representation for the `h` of `levelled_error` (the code's `p0`, `p1`, `h`) -/
theorem levelled_error_weighted_mean_real (n : ℕ) (v : ℕ → ℝ) (hx : StrictMonoOn v (Set.Iic (n + 1))) (f : ℝ → ℝ)
    (q : ℝ[X]) (hq : q.natDegree ≤ n) :
    let p0 := Lagrange.interpolate (Finset.range (n+1)) v (fun i => f (v i))
    let p1 := Lagrange.interpolate (Finset.range (n+1)) v (fun i => (-1:ℝ)^i)
    let h := (eval (v (n+1)) p0 - f (v (n+1))) / (eval (v (n+1)) p1 + (-1)^n)
    h = ∑ i ∈ Finset.range (n + 2), lam n v i * ((-1) ^ i * (f (v i) - q.eval (v i))) := by
  intro p0 p1 h
  exact weighted_mean_of_levelled hx (fun i => f (v i)) _
    (natDegree_interpolate_le n v _ (injOn_of_strictMonoOn hx (n + 1) (by omega))) h
    (Opda.Exchange.levelled_error_of_strictMono n v hx f) q hq

/-- the weighted-mean representation for the executable model term `levelH` (run by `approx.level`), any ordered
field -/
theorem levelled_error_weighted_mean_model {F : Type} [Field F] [LinearOrder F] [IsStrictOrderedRing F]
    [DecidableEq F] (n : ℕ) (v y : ℕ → F) (hx : StrictMonoOn v (Set.Iic (n + 1))) (q : F[X]) (hq : q.natDegree ≤ n) :
    levelH n v y = ∑ i ∈ Finset.range (n + 2), lam n v i * (altSign i * (y i - q.eval (v i))) := by
  rw [altSign_fun]
  exact weighted_mean_of_levelled hx y (levelPoly n v y)
    (natDegree_levelPoly n v y (injOn_of_strictMonoOn hx (n + 1) (by omega))) _
    (levelPoly_levelled n v y hx) q hq

/-- **alternating errors** (the code's condition 1): `q` of degree `≤ n` whose errors `e_i = y_i − q(x_i)` alternate
in sign along the ordered reference (`σ (−1)^i e_i ≥ 0`, `σ = ±1`) ⇒ `|h| = Σ λ_i |e_i|` -/
theorem alternating_errors_levelled_abs {F : Type} [Field F] [LinearOrder F] [IsStrictOrderedRing F] (n : ℕ)
    (x : ℕ → F) (hx : StrictMonoOn x (Set.Iic (n + 1))) (y : ℕ → F) (p : F[X]) (hp : p.natDegree ≤ n) (h : F)
    (hlev : ∀ i, i ≤ n + 1 → y i - p.eval (x i) = (-1) ^ i * h) (q : F[X]) (hq : q.natDegree ≤ n)
    (σ : F) (hσ : σ = 1 ∨ σ = -1) (halt : ∀ i, i ≤ n + 1 → 0 ≤ σ * (-1) ^ i * (y i - q.eval (x i))) :
    |h| = ∑ i ∈ Finset.range (n + 2), lam n x i * |y i - q.eval (x i)| :=
  abs_levelled_of_alternating hx y p hp h hlev q hq σ ((abs_eq zero_le_one).mpr hσ) halt

/-- **exchange monotonicity** (conditions 1 + 2): under the same hypotheses, every common lower bound `H` of the
`|e_i|` is `≤ |h|`, strictly as soon as one `|e_i| > H`; every common upper bound is `≥ |h|`; and
`min_i |e_i| ≤ |h| ≤ max_i |e_i|` -/
theorem alternating_errors_bound_levelled_error {F : Type} [Field F] [LinearOrder F] [IsStrictOrderedRing F] (n : ℕ)
    (x : ℕ → F) (hx : StrictMonoOn x (Set.Iic (n + 1))) (y : ℕ → F) (p : F[X]) (hp : p.natDegree ≤ n) (h : F)
    (hlev : ∀ i, i ≤ n + 1 → y i - p.eval (x i) = (-1) ^ i * h) (q : F[X]) (hq : q.natDegree ≤ n)
    (σ : F) (hσ : σ = 1 ∨ σ = -1) (halt : ∀ i, i ≤ n + 1 → 0 ≤ σ * (-1) ^ i * (y i - q.eval (x i))) :
    (∀ H, (∀ i, i ≤ n + 1 → H ≤ |y i - q.eval (x i)|) → H ≤ |h|) ∧
    (∀ H, (∀ i, i ≤ n + 1 → H ≤ |y i - q.eval (x i)|) → (∃ i, i ≤ n + 1 ∧ H < |y i - q.eval (x i)|) → H < |h|) ∧
    (∀ M, (∀ i, i ≤ n + 1 → |y i - q.eval (x i)| ≤ M) → |h| ≤ M) ∧
    (∃ i, i ≤ n + 1 ∧ |y i - q.eval (x i)| ≤ |h|) ∧ (∃ i, i ≤ n + 1 ∧ |h| ≤ |y i - q.eval (x i)|) :=
  abs_levelled_bounds_of_alternating hx y p hp h hlev q hq σ ((abs_eq zero_le_one).mpr hσ) halt

/-- alternating errors bound the levelled error (`alternating_errors_levelled_abs` and
`alternating_errors_bound_levelled_error`), for the executable model term `levelH` -/
theorem alternating_errors_bound_levelled_error_model {F : Type} [Field F] [LinearOrder F] [IsStrictOrderedRing F]
    [DecidableEq F] (n : ℕ) (v y : ℕ → F) (hx : StrictMonoOn v (Set.Iic (n + 1))) (q : F[X]) (hq : q.natDegree ≤ n)
    (σ : F) (hσ : σ = 1 ∨ σ = -1) (halt : ∀ i, i ≤ n + 1 → 0 ≤ σ * altSign i * (y i - q.eval (v i))) :
    |levelH n v y| = ∑ i ∈ Finset.range (n + 2), lam n v i * |y i - q.eval (v i)| ∧
    (∀ H, (∀ i, i ≤ n + 1 → H ≤ |y i - q.eval (v i)|) → H ≤ |levelH n v y|) ∧
    (∀ H, (∀ i, i ≤ n + 1 → H ≤ |y i - q.eval (v i)|) → (∃ i, i ≤ n + 1 ∧ H < |y i - q.eval (v i)|) →
      H < |levelH n v y|) ∧
    (∀ M, (∀ i, i ≤ n + 1 → |y i - q.eval (v i)| ≤ M) → |levelH n v y| ≤ M) ∧
    (∃ i, i ≤ n + 1 ∧ |y i - q.eval (v i)| ≤ |levelH n v y|) ∧
    (∃ i, i ≤ n + 1 ∧ |levelH n v y| ≤ |y i - q.eval (v i)|) :=
  by
  have halt' : ∀ i, i ≤ n + 1 → 0 ≤ σ * (-1) ^ i * (y i - q.eval (v i)) := fun i hi => by
    rw [← altSign_eq]; exact halt i hi
  have hdeg := natDegree_levelPoly n v y (injOn_of_strictMonoOn hx (n + 1) (by omega))
  have hσ' := (abs_eq zero_le_one).mpr hσ
  exact ⟨abs_levelled_of_alternating hx y _ hdeg _ (levelPoly_levelled n v y hx) q hq σ hσ' halt',
    abs_levelled_bounds_of_alternating hx y _ hdeg _ (levelPoly_levelled n v y hx) q hq σ hσ' halt'⟩

/-- **the exchange step cannot decrease the levelled error**, in the words of the algorithm (ℝ, Mathlib
interpolants): `hOf v` is the code's `h` on a reference `v`, `pOld` the levelled polynomial of the OLD reference
`x`; the new reference `x'` is strictly increasing, the errors of `pOld` on it alternate in sign (condition 1) and
are `≥ |h_old|` in size (condition 2) ⇒ `|h_new| ≥ |h_old|`, strictly if some point strictly improved. -/
theorem exchange_increases_levelled_error (n : ℕ) (f : ℝ → ℝ) (x x' : ℕ → ℝ)
    (hx : Set.InjOn x (Finset.range (n + 1) : Finset ℕ)) (hx' : StrictMonoOn x' (Set.Iic (n + 1))) :
    let hOf : (ℕ → ℝ) → ℝ := fun v =>
      (eval (v (n+1)) (Lagrange.interpolate (Finset.range (n+1)) v (fun i => f (v i))) - f (v (n+1)))
        / (eval (v (n+1)) (Lagrange.interpolate (Finset.range (n+1)) v (fun i => (-1:ℝ)^i)) + (-1)^n)
    let pOld := Lagrange.interpolate (Finset.range (n+1)) x (fun i => f (x i) - hOf x * (-1)^i)
    ∀ σ : ℝ, (σ = 1 ∨ σ = -1) →
      (∀ i, i ≤ n+1 → 0 ≤ σ * (-1)^i * (f (x' i) - eval (x' i) pOld)) →
      (∀ i, i ≤ n+1 → |hOf x| ≤ |f (x' i) - eval (x' i) pOld|) →
      |hOf x| ≤ |hOf x'| ∧
        ((∃ i, i ≤ n+1 ∧ |hOf x| < |f (x' i) - eval (x' i) pOld|) → |hOf x| < |hOf x'|) := by
  intro hOf pOld σ hσ halt hge
  obtain ⟨h1, h2, _⟩ := abs_levelled_bounds_of_alternating hx' (fun i => f (x' i)) _
    (natDegree_interpolate_le n x' _ (injOn_of_strictMonoOn hx' (n + 1) (by omega))) (hOf x')
    (Opda.Exchange.levelled_error_of_strictMono n x' hx' f) pOld (natDegree_interpolate_le n x _ hx) σ
    ((abs_eq zero_le_one).mpr hσ) halt
  exact ⟨h1 _ hge, fun hs => h2 _ hge hs⟩

/-- the exchange step cannot decrease the levelled error, for the executable model terms (`levelH`, `levelP`), any
ordered field -/
theorem exchange_increases_levelled_error_model {F : Type} [Field F] [LinearOrder F] [IsStrictOrderedRing F]
    [DecidableEq F] (n : ℕ) (f : F → F) (v v' : ℕ → F)
    (hv : Set.InjOn v (Finset.range (n + 1) : Finset ℕ)) (hv' : StrictMonoOn v' (Set.Iic (n + 1)))
    (σ : F) (hσ : σ = 1 ∨ σ = -1)
    (halt : ∀ i, i ≤ n + 1 → 0 ≤ σ * altSign i * (f (v' i) - levelP n v (fun j => f (v j)) (v' i)))
    (hge : ∀ i, i ≤ n + 1 →
      |levelH n v (fun j => f (v j))| ≤ |f (v' i) - levelP n v (fun j => f (v j)) (v' i)|) :
    |levelH n v (fun j => f (v j))| ≤ |levelH n v' (fun j => f (v' j))| ∧
    ((∃ i, i ≤ n + 1 ∧ |levelH n v (fun j => f (v j))| < |f (v' i) - levelP n v (fun j => f (v j)) (v' i)|) →
      |levelH n v (fun j => f (v j))| < |levelH n v' (fun j => f (v' j))|) := by
  simp only [levelP_eq_eval n v _ hv] at halt hge ⊢
  obtain ⟨_, h1, h2, _⟩ := alternating_errors_bound_levelled_error_model n v' (fun j => f (v' j)) hv' (levelPoly n v (fun j => f (v j)))
    (natDegree_levelPoly n v _ hv) σ hσ halt
  exact ⟨h1 _ hge, fun hs => h2 _ hge hs⟩

/-- de la Vallée-Poussin for a levelled reference (from the divided-difference identity through `dvp_ordered`: no
intermediate-value argument, any ordered field): every
polynomial of degree `≤ n` errs by at least `|h|` at some point of a levelled ordered reference -/
theorem levelled_error_le_some_competitor_error {F : Type} [Field F] [LinearOrder F] [IsStrictOrderedRing F] (n : ℕ)
    (x : ℕ → F) (hx : StrictMonoOn x (Set.Iic (n + 1))) (y : ℕ → F) (p : F[X]) (hp : p.natDegree ≤ n) (h : F)
    (hlev : ∀ i, i ≤ n + 1 → y i - p.eval (x i) = (-1) ^ i * h) (q : F[X]) (hq : q.natDegree ≤ n) :
    ∃ i, i ≤ n + 1 ∧ |h| ≤ |y i - q.eval (x i)| := by
  rcases le_total 0 h with h0 | h0
  · refine dvp_ordered hx y p q hp hq |h| 1 (by simp) fun i hi => ?_
    rw [hlev i hi, one_mul, ← mul_assoc, alt_sq, one_mul, abs_of_nonneg h0]
  · refine dvp_ordered hx y p q hp hq |h| (-1) (by simp) fun i hi => ?_
    rw [hlev i hi, neg_one_mul, neg_mul, ← mul_assoc, alt_sq, one_mul, abs_of_nonpos h0]

/-- **the sandwich for the returned object**: strictly increasing reference inside `[a,b]`, `p` and `h` its levelled
polynomial and levelled error ⇒ `|h| ≤ E_n(f;[a,b]) ≤ sup_{[a,b]} |f − p|` -/
theorem levelled_reference_sandwich (n : ℕ) (f : ℝ → ℝ) (v : ℕ → ℝ) (hx : StrictMonoOn v (Set.Iic (n + 1)))
    (a b : ℝ) (ha : a ≤ v 0) (hb : v (n + 1) ≤ b) :
    let p0 := Lagrange.interpolate (Finset.range (n+1)) v (fun i => f (v i))
    let p1 := Lagrange.interpolate (Finset.range (n+1)) v (fun i => (-1:ℝ)^i)
    let h := (eval (v (n+1)) p0 - f (v (n+1))) / (eval (v (n+1)) p1 + (-1)^n)
    let p := Lagrange.interpolate (Finset.range (n+1)) v (fun i => f (v i) - h * (-1)^i)
    ENNReal.ofReal |h| ≤ minimaxErr n f a b ∧ minimaxErr n f a b ≤ supErr f p a b := by
  intro p0 p1 h p
  have hpdeg : p.natDegree ≤ n :=
    natDegree_interpolate_le n v _ (injOn_of_strictMonoOn hx (n + 1) (by omega))
  refine ⟨le_minimaxErr n f a b |h| fun q hq => ?_, iInf₂_le p hpdeg⟩
  obtain ⟨i, hi, hle⟩ := levelled_error_le_some_competitor_error n v hx (fun i => f (v i)) p hpdeg h
    (Opda.Exchange.levelled_error_of_strictMono n v hx f) q hq
  exact ⟨v i, ha.trans (hx.monotoneOn (Set.mem_Iic.mpr (Nat.zero_le _)) hi (Nat.zero_le i)),
    (hx.monotoneOn hi (Set.mem_Iic.mpr le_rfl) hi).trans hb, hle⟩

/-- `f(x)=x²` on `[0,1]`, `n=1`: reference `0, ½, 1`, minimax polynomial `x − ⅛` -/
example : checkAlt 1 0 1 [0, 1/2, 1] [-1/8, 3/8] [0, 1/4, 1] [0, 1/4, 1] (1/8) true = true := by decide +kernel

example : checkAltLevel 1 0 1 [0, 1/2, 1] [0, 1/4, 1] [0, 1/4, 1] [0, 1/4, 1] (1/8) true = true := by decide +kernel

example : certPoly 2 (getR [0, 1/2, 1]) (getR [-1/8, 3/8]) [0, 0, 1] (1/4) 0 1 3 20 = true := by decide +kernel


/-- reference `0, ½, 1`: weights `2, −4, 2`, `λ = ¼, ½, ¼`, levelled error `h = ⅛` (the minimax error of `x²` by
lines on `[0,1]`), and `h = Σ λ_i (−1)^i f(x_i)` -/
example : weight 3 (getR [0, 1/2, 1]) 0 = 2 ∧ weight 3 (getR [0, 1/2, 1]) 1 = -4 ∧ weight 3 (getR [0, 1/2, 1]) 2 = 2 ∧
    levelH 1 (getR [0, 1/2, 1]) (fun i => getR [0, 1/2, 1] i ^ 2) = 1/8 ∧
    (1/4 : ℚ) * 0 - 1/2 * (1/2)^2 + 1/4 * 1^2 = 1/8 := by decide +kernel

example : lam 1 (getR [0, 1/2, 1]) 1 = 1/2 := by
  rw [lambda_def]; simp only [Finset.sum_range_succ, Finset.sum_range_zero]
  rw [show weight (1 + 2) (getR [0, 1/2, 1]) 0 = 2 by decide +kernel,
    show weight (1 + 2) (getR [0, 1/2, 1]) 1 = -4 by decide +kernel,
    show weight (1 + 2) (getR [0, 1/2, 1]) 2 = 2 by decide +kernel]
  norm_num

/-- one exchange step: old reference `0, ¼, 1` (`h_old = 3/32`, `p_old = x − 3/32`), new reference `0, ½, 1`:
the errors of `p_old` there are `3/32, −5/32, 3/32` — alternating, all `≥ h_old`, one strictly — and the theorem
gives `|h_old| < |h_new|` (indeed `3/32 < 1/8`) -/
example : |(3/32 : ℚ)| < |(1/8 : ℚ)| := by
  have hv : Set.InjOn (getR [0, 1/4, 1]) (Finset.range (1 + 1) : Finset ℕ) :=
    distinct_injOn 2 _ (by decide +kernel)
  have hv' := reference_strictMonoOn_of_consecutive 1 (getR [0, 1/2, 1]) (by decide +kernel)
  have h := (exchange_increases_levelled_error_model 1 (fun t : ℚ => t ^ 2) (getR [0, 1/4, 1]) (getR [0, 1/2, 1])
    hv hv' 1 (Or.inl rfl) (by decide +kernel) (by decide +kernel)).2 ⟨1, by omega, by decide +kernel⟩
  rwa [show levelH 1 (getR [0, 1/4, 1]) (fun j => (fun t : ℚ => t ^ 2) (getR [0, 1/4, 1] j)) = 3/32 by decide +kernel,
    show levelH 1 (getR [0, 1/2, 1]) (fun j => (fun t : ℚ => t ^ 2) (getR [0, 1/2, 1] j)) = 1/8 by decide +kernel] at h

/-- the hypotheses of `levelled_error_model_of_strictMono` / `levelled_reference_sandwich` hold for `0, ½, 1` -/
example : StrictMonoOn (getR [0, 1/2, 1]) (Set.Iic (1 + 1)) := reference_strictMonoOn_of_consecutive 1 _ (by decide +kernel)

end Opda.Props.C17

#opda_audit Opda.Props.C17

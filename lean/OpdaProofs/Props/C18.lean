import OpdaProofs.Audit
import OpdaProofs.Lagrange
import OpdaProofs.PolyQ
import OpdaProofs.Reexp
import OpdaProofs.Minimax
/-!
# C18 — Lagrange interpolation, minimax coefficients, piecewise knots

Property theorems, the short ones with their proofs; the rest is in `Lagrange` (model = Mathlib's interpolant),
`Reexp` (binomial re-expansion), `PolyQ` (the range certificate), `Minimax` (`minimaxErr`, equal-error knots, `MidOK`).
Four groups: (1) `Lagr.eval`, the executable model of `lagrange_interpolate` (first barycentric form + node fix-up, as
the code does it), and `Lagr.lsum`, the plain Lagrange-basis sum, both run in exact `ℚ` by the driver op `approx.lagr`
on the implementation's inputs: they evaluate the unique interpolant, whatever the node order; (2) the coefficient
re-expansion of `minimax_polynomial_coefficients` is composition with the code's affine map; (3) an accepted
`certPoly` bounds the coefficient polynomial against the node-value polynomial on all of `[a,b]`; (4) knots:
monotonicity of the minimax error in the interval, equal-error optimality, and the bracket invariants of the inner
knot search and the outer error bisection.

Compared by the harness, not proved: floating-point rounding of the implementation (inside the
property's `1e-13·Σ|y_j l_j(x)|`), the least-squares recovery of the coefficients, convergence of the
knot search.
-/
namespace Opda.Props.C18
open Polynomial Finset Opda.Lagr Opda.PolyQ Opda.Reexp Opda.Minimax
open Opda.PolyCheck (evalQ)

section Lagrange
variable {F : Type} [Field F] [DecidableEq F]

/-- **Model = Spec**: the code's algorithm evaluates Mathlib's `Lagrange.interpolate` at every `x`
(off the nodes through `Lagrange.eval_interpolate_not_at_node`, at a node through the fix-up). -/
theorem model_is_lagrange_interpolant (n : ℕ) (v r : ℕ → F) (hv : Set.InjOn v (range n : Finset ℕ)) (x : F) :
    Lagr.eval n v r x = (Lagrange.interpolate (range n) v r).eval x := eval_eq_interpolate n v r hv x

/-- exact at the nodes -/
theorem exact_at_nodes (n : ℕ) (v r : ℕ → F) (hv : Set.InjOn v (range n : Finset ℕ)) (i : ℕ) (hi : i < n) :
    Lagr.eval n v r (v i) = r i := by
  rw [eval_eq_interpolate n v r hv, Lagrange.eval_interpolate_at_node r hv (mem_range.mpr hi)]

/-- the barycentric model and the plain Lagrange sum `Σ y_j l_j(x)` agree everywhere -/
theorem barycentric_eq_lagrange_sum (n : ℕ) (v r : ℕ → F) (hv : Set.InjOn v (range n : Finset ℕ)) (x : F) :
    Lagr.eval n v r x = lsum n v r x := by
  rw [eval_eq_interpolate n v r hv, lsum_eq_interpolate]

/-- the interpolant has degree `< n = len(xs)` -/
theorem interpolant_degree_lt (n : ℕ) (v r : ℕ → F) (hv : Set.InjOn v (range n : Finset ℕ)) :
    (Lagrange.interpolate (range n) v r).degree < n := by
  simpa using Lagrange.degree_interpolate_lt r hv

/-- the interpolant is the **unique** polynomial of degree `< n` through the points: whatever polynomial of degree `< n`
passes through them, the model evaluates it. -/
theorem unique_interpolant (n : ℕ) (v r : ℕ → F) (hv : Set.InjOn v (range n : Finset ℕ))
    (q : F[X]) (hdeg : q.degree < n) (hq : ∀ i, i < n → q.eval (v i) = r i) (x : F) :
    Lagr.eval n v r x = q.eval x := by
  have : q = Lagrange.interpolate (range n) v r :=
    Lagrange.eq_interpolate_of_eval_eq r hv (by simpa using hdeg) fun i hi => hq i (mem_range.mp hi)
  rw [eval_eq_interpolate n v r hv, this]

/-- **permutation invariance**: re-ordering the nodes (with their values) by any bijection of the index
set does not change the function. -/
theorem permutation_invariant (n : ℕ) (v r : ℕ → F) (hv : Set.InjOn v (range n : Finset ℕ))
    (σ : ℕ → ℕ) (hσ : Set.BijOn σ (range n : Finset ℕ) (range n : Finset ℕ)) (x : F) :
    Lagr.eval n (v ∘ σ) (r ∘ σ) x = Lagr.eval n v r x := by
  have hv' : Set.InjOn (v ∘ σ) (range n : Finset ℕ) := hv.comp hσ.injOn hσ.mapsTo
  -- the re-indexed interpolant has degree `< n` and the same values at the nodes
  have key : Lagrange.interpolate (range n) (v ∘ σ) (r ∘ σ) = Lagrange.interpolate (range n) v r := by
    refine Lagrange.eq_interpolate_of_eval_eq r hv (Lagrange.degree_interpolate_lt (r ∘ σ) hv') fun i hi => ?_
    obtain ⟨k, hk, hki⟩ := hσ.surjOn (Finset.mem_coe.mpr hi)
    have h1 := Lagrange.eval_interpolate_at_node (r ∘ σ) hv' (Finset.mem_coe.mp hk)
    simp only [Function.comp_apply, hki] at h1
    exact h1
  rw [eval_eq_interpolate n _ _ hv', eval_eq_interpolate n v r hv, key]

end Lagrange

/-- the term the driver evaluates (`ℚ`, nodes tested by `distinct`): its value, read in `ℝ`, is the
real Lagrange interpolant of the data at that point, and equals the plain Lagrange sum. -/
theorem lagr_driver (n : ℕ) (v r : ℕ → ℚ) (hd : distinct n v = true) (x : ℚ) :
    ((Lagr.eval n v r x : ℚ) : ℝ)
        = (Lagrange.interpolate (range n) (fun i => (v i : ℝ)) (fun i => (r i : ℝ))).eval (x : ℝ)
      ∧ Lagr.eval n v r x = lsum n v r x :=
  ⟨cast_eval_eq_interpolate n v r (distinct_injOn n v hd) x,
    barycentric_eq_lagrange_sum n v r (distinct_injOn n v hd) x⟩

section Reexpansion
variable {F : Type} [Field F]

/-- **T2**: the re-expansion `a'_i = Σ_{j≥i} C(j,i) b^{j−i} c^j a_j` is composition with the affine map
`X ↦ c·(X + b)` -/
theorem reexpansion_is_affine_composition (N : ℕ) (a : ℕ → F) (b c : F) :
    polyOf N (reexpand N a b c) = (polyOf N a).comp (C c * (X + C b)) := by
  unfold polyOf
  simp only [C_reexpand]
  -- composition distributes over the sum, and `(C a_j * X^j).comp q = C a_j * q^j`
  rw [reexpand_sum N (fun j => C (a j)) (C b) (C c) X, Polynomial.sum_comp]
  exact Finset.sum_congr rfl fun j _ => by rw [mul_comp, C_comp, X_pow_comp]

/-- with the code's transform arithmetic the re-expanded polynomial at `x` is the polynomial in the
transformed variable at `ta + (x − a_orig)/m`, for every transform `(ta, tb)` -/
theorem reexpansion_code_arithmetic (N : ℕ) (a : ℕ → F) (ta tb a0 b0 x : F) (h1 : tb - ta ≠ 0) (h2 : b0 - a0 ≠ 0) :
    let m := (b0 - a0) / (tb - ta)
    ∑ i ∈ range N, reexpand N a (m * ta - a0) (1 / m) i * x ^ i
      = ∑ j ∈ range N, a j * (ta + (x - a0) / m) ^ j := by
  intro m
  rw [reexpand_sum, affine_code ta tb a0 b0 x h1 h2]

/-- that affine map sends the original interval's end points to the transform interval's -/
theorem transform_maps_endpoints (ta tb a0 b0 : F) (h1 : tb - ta ≠ 0) (h2 : b0 - a0 ≠ 0) :
    let m := (b0 - a0) / (tb - ta)
    ta + (a0 - a0) / m = ta ∧ ta + (b0 - a0) / m = tb := by
  intro m
  exact ⟨by rw [sub_self, zero_div, add_zero], by rw [div_div_cancel₀ h2, add_sub_cancel]⟩

end Reexpansion

/-- **T3** (the term `approx.cpoly` evaluates, `cf` = the returned coefficients): an accepted
certificate bounds the difference between the coefficient polynomial and the polynomial defined by the
minimax callable's node values at **every** real `x ∈ [a,b]`. -/
theorem coefficient_polynomial_close_everywhere (n : ℕ) (v r : ℕ → ℚ) (cf : List ℚ) (B a b : ℚ) (depth S : ℕ)
    (hv : Set.InjOn v (range n : Finset ℕ))
    (h : certPoly n v r cf B a b depth S = true) (x : ℝ) (h1 : (a : ℝ) ≤ x) (h2 : x ≤ (b : ℝ)) :
    |evalQ cf x - (Lagrange.interpolate (range n) (fun i => (v i : ℝ)) (fun i => (r i : ℝ))).eval x| ≤ (B : ℝ) :=
  certPoly_sound n v r cf B a b depth S hv h x h1 h2

/-- the minimax error grows with the interval (sup over a superset) -/
theorem minimax_error_monotone_in_interval (n : ℕ) (f : ℝ → ℝ) (l r l' r' : ℝ) (hl : l' ≤ l) (hr : r ≤ r') :
    minimaxErr n f l r ≤ minimaxErr n f l' r' :=
  iInf₂_mono fun _ _ => biSup_mono fun _ hx => Set.Icc_subset_Icc hl hr hx

/-- **equal-error optimality** for an abstract interval-monotone error functional -/
theorem equal_error_knots_optimal (m : ℕ) (hm : 0 < m) (K K' : ℕ → ℝ) (err : ℕ → ℝ → ℝ → ℝ) (E : ℝ)
    (hmono : ∀ i l r l' r', l' ≤ l → r ≤ r' → err i l r ≤ err i l' r')
    (h0 : K' 0 ≤ K 0) (hend : K m ≤ K' m) (hK : ∀ i, i < m → E ≤ err i (K i) (K (i+1))) :
    ∃ i, i < m ∧ E ≤ err i (K' i) (K' (i+1)) :=
  Opda.Knots.equal_error_optimal m hm K K' err E hmono h0 hend hK

/-- **equal-error optimality for the true minimax errors**: if every piece of the knot vector `K` has
minimax error at least `E` (degrees `ns i`), every other knot vector on the same interval has a piece
with minimax error at least `E`; so knots whose pieces all have error `E` minimise the worst piece. -/
theorem equal_error_knots_optimal_minimax (m : ℕ) (hm : 0 < m) (ns : ℕ → ℕ) (f : ℝ → ℝ) (K K' : ℕ → ℝ) (E : ENNReal)
    (h0 : K' 0 ≤ K 0) (hend : K m ≤ K' m)
    (hK : ∀ i, i < m → E ≤ minimaxErr (ns i) f (K i) (K (i+1))) :
    ∃ i, i < m ∧ E ≤ minimaxErr (ns i) f (K' i) (K' (i+1)) :=
  Opda.Knots.equal_error_optimal_gen m hm K K' (fun i l r => minimaxErr (ns i) f l r) E
    (fun i l r l' r' hl hr => minimax_error_monotone_in_interval (ns i) f l r l' r' hl hr) h0 hend hK

/-- inner bisection invariant: the knot returned by the search lies in `[knot_prev, b]`, whatever the number of
steps (the code runs `Knots.innerSteps = 52`), the error function and the target -/
theorem knot_search_stays_in_bracket {α : Type} [LinearOrder α] (mid : α → α → α) (hm : Opda.Knots.MidOK mid)
    (errOf : α → α) (target : α) (k : ℕ) (lo hi curr : α) (h : lo ≤ hi) (hc : lo ≤ curr ∧ curr ≤ hi) :
    lo ≤ Opda.Knots.knotSearch mid errOf target k lo hi curr ∧ Opda.Knots.knotSearch mid errOf target k lo hi curr ≤ hi :=
  by
  induction k generalizing lo hi curr with
  | zero => exact hc
  | succ k ih =>
    obtain ⟨h1, h2⟩ := hm lo hi h
    simp only [Opda.Knots.knotSearch]
    split_ifs
    · exact ⟨(ih lo _ _ h1 ⟨h1, le_rfl⟩).1, (ih lo _ _ h1 ⟨h1, le_rfl⟩).2.trans h2⟩
    · exact ⟨h1.trans (ih _ hi _ h2 ⟨le_rfl, h2⟩).1, (ih _ hi _ h2 ⟨le_rfl, h2⟩).2⟩

/-- hence the knot vector built by successive searches is non-decreasing from `a` and stays `≤ b` -/
theorem knots_nondecreasing {α : Type} [LinearOrder α] (mid : α → α → α) (hm : Opda.Knots.MidOK mid)
    (errOf : ℕ → α → α → α) (target : α) (steps : ℕ) (a b : α) (hab : a ≤ b) (K : ℕ → α) (h0 : K 0 = a)
    (hK : ∀ i, K (i + 1) = Opda.Knots.knotSearch mid (errOf i (K i)) target (steps + 1) (K i) b (K i)) :
    ∀ i, a ≤ K i ∧ K i ≤ K (i + 1) ∧ K (i + 1) ≤ b := by
  have step : ∀ i, K i ≤ b → K i ≤ K (i + 1) ∧ K (i + 1) ≤ b := fun i h => by
    rw [hK i]
    exact knot_search_stays_in_bracket mid hm _ target (steps + 1) (K i) b (K i) h ⟨le_rfl, h⟩
  have hin : ∀ i, a ≤ K i ∧ K i ≤ b := fun i => by
    induction i with
    | zero => rw [h0]; exact ⟨le_rfl, hab⟩
    | succ i ih => exact ⟨ih.1.trans (step i ih.2).1, (step i ih.2).2⟩
  exact fun i => ⟨(hin i).1, step i (hin i).2⟩

/-- outer bisection invariant: the error bracket only shrinks -/
theorem outer_bracket_shrinks {α : Type} [LinearOrder α] (lo hi emin emax : α) :
    lo ≤ (Opda.Knots.outerUpdate lo hi emin emax).1 ∧ (Opda.Knots.outerUpdate lo hi emin emax).2 ≤ hi :=
  -- the update is `(max lo emin, min emax hi)`
  ⟨(le_max_left lo emin).trans_eq (max_def lo emin), (min_def emax hi).symm.trans_le (min_le_right emax hi)⟩

/-- outer bisection invariant: the updated error bracket keeps every level that lies between the current extreme
piece errors -/
theorem outer_bracket_keeps_level {α : Type} [LinearOrder α] (lo hi emin emax E : α)
    (h1 : lo ≤ E) (h2 : E ≤ hi) (h3 : emin ≤ E) (h4 : E ≤ emax) :
    (Opda.Knots.outerUpdate lo hi emin emax).1 ≤ E ∧ E ≤ (Opda.Knots.outerUpdate lo hi emin emax).2 :=
  ⟨(max_def lo emin).symm.trans_le (max_le h1 h3), (le_min h4 h2).trans_eq (min_def emax hi)⟩

example : distinct 3 (Opda.Remez.getR [0, 1/2, 1]) = true := by decide +kernel
example : Lagr.eval 3 (Opda.Remez.getR [0, 1/2, 1]) (Opda.Remez.getR [0, 1/4, 1]) (1/3) = 1/9 := by decide +kernel
example : Lagr.eval 3 (Opda.Remez.getR [0, 1/2, 1]) (Opda.Remez.getR [0, 1/4, 1]) (1/2) = 1/4 := by decide +kernel
example : Opda.Reexp.transformCoeffs [1, 2, 3] (-1) 1 0 4 = [2, -2, 3/4] := by decide +kernel

end Opda.Props.C18

#opda_audit Opda.Props.C18

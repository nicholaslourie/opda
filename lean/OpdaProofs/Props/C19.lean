import OpdaProofs.Audit
import OpdaProofs.TableSpec
import OpdaProofs.TableMoments
import OpdaGen.CertAll
/-!
# C19 — the shipped approximation table delivers the accuracy it records

`Opda.Gen.tableQ` is regenerated from `/repo/src/opda/_approximations.json` on every run (every double as the
exact rational it denotes), and so are the certificates in `OpdaGen/CertAll.lean`; the theorems below are therefore
checked against the file as it is at every run.  Exponent = `row.1 / 2`.
-/
namespace Opda.Props.C19
open Opda.Table Opda.Gen Opda.PolyCheck Opda.Noisy

/-- structure: in every entry the knots increase strictly from exactly 0 to exactly 1 with one coefficient vector
per piece, and in every row `min_scale` decreases strictly and ends at exactly 0. -/
theorem table_structure : structOK tableQ = true := Opda.Gen.Cert.struct_ok

/-- **uniform accuracy**: for every exponent in the table, every entry and *every real* `x ∈ [0,1]`, the piece whose
knots bracket `x` is within `1.02 · max_error` of `x ^ exponent` at `x`. -/
theorem table_accuracy (row : Nat × List EntryQ) (hrow : row ∈ tableQ) (e : EntryQ) (he : e ∈ row.2)
    (x : ℝ) (hx0 : 0 ≤ x) (hx1 : x ≤ 1) :
    ∃ (pi : ℕ) (cs : List ℚ) (lo hi : ℚ), e.coeffs[pi]? = some cs ∧ e.knots[pi]? = some lo ∧ e.knots[pi + 1]? = some hi ∧
      (lo : ℝ) ≤ x ∧ x ≤ (hi : ℝ) ∧
      |evalQ cs x - x ^ ((row.1 : ℝ) / 2)| ≤ ((slack * e.maxError : ℚ) : ℝ) :=
  accuracy_of_certs tableQ Opda.Gen.Cert.struct_ok Opda.Gen.Cert.table_bound row hrow e he x hx0 hx1

/-- **partial moments**: for every exponent, every entry, **every location `μ` and every scale `σ > 0`** (in particular
every scale that selects the entry), the partial normal moment obtained from the entry's pieces, `Σ_pieces ∫ p_i dN(μ,σ²)`,
is within `1.02 · max_error` of `∫₀¹ x^k dN(μ,σ²)` — in exact arithmetic.  (That the code's piecewise recursion returns
exactly `Σ_pieces ∫ p_i dN` is `Opda.Props.C06.frac_moment_model`; the floating-point evaluation is compared with
40-digit quadrature by the correspondence check.) -/
theorem table_partial_moments (row : Nat × List EntryQ) (hrow : row ∈ tableQ) (e : EntryQ) (he : e ∈ row.2)
    (μ σ : ℝ) (hσ : 0 < σ) :
    |(∫ x in (0:ℝ)..1, x ^ ((row.1 : ℝ) / 2) * dens μ σ x) - piecesSum μ σ (piecesOf e.knots e.coeffs)|
      ≤ ((slack * e.maxError : ℚ) : ℝ) :=
  moments_of_certs tableQ Opda.Gen.Cert.struct_ok Opda.Gen.Cert.table_bound row hrow e he μ σ hσ

/-- the same bound for every piece on its *whole* knot interval (index form, one certificate per piece). -/
theorem piece_accuracy : ∀ t ∈ allPieces tableQ, PieceBound tableQ t.1 t.2.1 t.2.2 := Opda.Gen.Cert.table_bound

/-- **every scale selects exactly one entry**: the code's rule "first entry with `scale ≥ min_scale`" is total on
`scale ≥ 0`, and the selected entry is the first (hence, `min_scale` being strictly decreasing, the only) one whose
half-open scale range contains `scale`. -/
theorem select_total_unique (row : Nat × List EntryQ) (hrow : row ∈ tableQ) (scale : ℚ) (hs : 0 ≤ scale) :
    ∃ e, select row.2 scale = some e ∧ e ∈ row.2 ∧ e.minScale ≤ scale ∧
      ∃ i : ℕ, row.2[i]? = some e ∧ ∀ j, j < i → ∀ e' : EntryQ, row.2[j]? = some e' → scale < e'.minScale :=
  Opda.Table.select_total_unique row
    (List.all_eq_true.mp Opda.Gen.Cert.struct_ok row hrow) scale hs

end Opda.Props.C19

#opda_audit Opda.Props.C19

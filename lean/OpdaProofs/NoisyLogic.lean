import OpdaModel.NoisyFloat
import OpdaProofs.NoisyBisect
import Mathlib.Algebra.Order.Field.Basic
import Mathlib.Tactic

/-!
C06/C07: decision logic of the polymorphic model `Opda.Noisy` (the very terms the driver evaluates at `Float`) over an
arbitrary linearly ordered field, with the transcendental functions as *arbitrary* parameters (the record `F : Fns α`).
What is assumed about `F` is explicit: `Lawful F` (numerals are numerals and `F.eq` is equality: true of the `ℝ`
instance; at `Float` this is IEEE `==` on non-NaN values) and `RangeOK F` (ranges of `Φ`, `φ`, `√`, `pow` for the two
closed-form regimes, `0 ≤ +inf` for the density of the point mass; the series regime `.nothing` needs nothing).
The file opens with the facts about the model's `clip` (`np.clip`) that every regime uses.
-/
-- the `variable` line assumes an ordered field for every lemma, more than many of them need
set_option linter.unusedSectionVars false

namespace Opda.Noisy

variable {α : Type} [Field α] [LinearOrder α] [IsStrictOrderedRing α]

structure Lawful (F : Fns α) : Prop where
  n_cast : ∀ k : ℕ, F.n k = (k : α)
  eq_iff : ∀ x y : α, F.eq x y = true ↔ x = y

structure RangeOK (F : Fns α) : Prop where
  cdf01 : ∀ x, 0 ≤ F.normalCdf x ∧ F.normalCdf x ≤ 1
  pdf0 : ∀ x, 0 ≤ F.normalPdf x
  sqrt0 : ∀ x, 0 ≤ F.sqrt x
  pow01 : ∀ x k, 0 ≤ x → x ≤ 1 → 0 ≤ k → 0 ≤ F.pow x k ∧ F.pow x k ≤ 1
  pow0 : ∀ x k, 0 ≤ x → 0 ≤ F.pow x k
  posInf0 : 0 ≤ F.posInf

theorem clip_eq (x lo hi : α) (h : lo ≤ hi) : clip x lo hi = max lo (min x hi) := by
  unfold clip
  split_ifs with h1 h2
  · rw [max_eq_left (min_le_of_left_le h1.le)]
  · rw [min_eq_right h2.le, max_eq_right h]
  · rw [min_eq_left (not_lt.mp h2), max_eq_right (not_lt.mp h1)]

theorem clip_mem (x lo hi : α) (h : lo ≤ hi) : lo ≤ clip x lo hi ∧ clip x lo hi ≤ hi := by
  rw [clip_eq x lo hi h]; exact ⟨le_max_left _ _, max_le h (min_le_right _ _)⟩

theorem clip_mono (x y lo hi : α) (h : lo ≤ hi) (hxy : x ≤ y) : clip x lo hi ≤ clip y lo hi := by
  rw [clip_eq x lo hi h, clip_eq y lo hi h]; exact max_le_max le_rfl (min_le_min hxy le_rfl)

theorem clip_of_mem (x lo hi : α) (h1 : lo ≤ x) (h2 : x ≤ hi) : clip x lo hi = x := by
  unfold clip; rw [if_neg (not_lt.mpr h1), if_neg (not_lt.mpr h2)]

theorem clip_of_le (x lo hi : α) (h : lo ≤ hi) (hx : x ≤ lo) : clip x lo hi = lo := by
  rw [clip_eq x lo hi h, max_eq_left (min_le_of_left_le hx)]

theorem clip_of_ge (x lo hi : α) (h : lo ≤ hi) (hx : hi ≤ x) : clip x lo hi = hi := by
  rw [clip_eq x lo hi h, min_eq_right hx, max_eq_right h]

theorem clip_strictMono {f : α → α} (hf : StrictMono f) (x lo hi : α) :
    clip (f x) (f lo) (f hi) = f (clip x lo hi) := by
  unfold clip; simp only [hf.lt_iff_lt]; split_ifs <;> rfl

theorem clip_strictAnti {f : α → α} (hf : StrictAnti f) (x lo hi : α) (h : lo ≤ hi) :
    clip (f x) (f hi) (f lo) = f (clip x lo hi) := by
  unfold clip; simp only [hf.lt_iff_gt]
  split_ifs with h1 h2 <;> first | rfl | exact absurd (h2.trans_le h) (not_lt.mpr h1.le)

theorem clip_lipschitz (x y lo hi : α) (h : lo ≤ hi) : |clip x lo hi - clip y lo hi| ≤ |x - y| := by
  rw [clip_eq x lo hi h, clip_eq y lo hi h, max_comm lo, max_comm lo]
  refine (abs_max_sub_max_le_abs _ _ _).trans ((abs_min_sub_min_le_max _ _ _ _).trans_eq ?_)
  rw [sub_self, abs_zero, max_eq_left (abs_nonneg _)]

variable {F : Fns α}

theorem Lawful.n_zero (hF : Lawful F) : F.n 0 = 0 := by rw [hF.n_cast, Nat.cast_zero]

theorem Lawful.n_one (hF : Lawful F) : F.n 1 = 1 := by rw [hF.n_cast, Nat.cast_one]

theorem Lawful.n_ofNat (hF : Lawful F) (k : ℕ) [k.AtLeastTwo] : F.n (OfNat.ofNat k) = OfNat.ofNat k := by
  rw [hF.n_cast, Nat.cast_ofNat]

theorem Lawful.n_nonneg (hF : Lawful F) (k : ℕ) : 0 ≤ F.n k := hF.n_cast k ▸ Nat.cast_nonneg k

theorem Lawful.lit (hF : Lawful F) (p q : ℕ) : F.lit p q = (p : α) / (q : α) := by
  unfold Fns.lit; rw [hF.n_cast, hF.n_cast]

theorem pointMass_iff (hF : Lawful F) (d : Params α) : pointMass F d = true ↔ d.a = d.b ∧ d.o = 0 := by
  unfold pointMass
  rw [Bool.and_eq_true, hF.eq_iff, hF.eq_iff, hF.n_zero]

theorem pointMass_eq_false (hF : Lawful F) (d : Params α) (h : d.a ≠ d.b ∨ d.o ≠ 0) : pointMass F d = false := by
  rw [Bool.eq_false_iff, Ne, pointMass_iff hF]; exact fun h' => h.elim (· h'.1) (· h'.2)

theorem tiny_pos : (0:α) < 1 / 1000000 := by norm_num

theorem regime_eq (hF : Lawful F) (d : Params α) :
    regime F d = if d.o < 1 / 1000000 * (d.b - d.a) then .noiseless
      else if d.o < 10 * (d.b - d.a) then .nothing else .normal := by
  unfold regime; rw [hF.lit, hF.n_ofNat, Nat.cast_one, Nat.cast_ofNat]

theorem regime_noiseless_iff (hF : Lawful F) (d : Params α) :
    regime F d = .noiseless ↔ d.o < 1 / 1000000 * (d.b - d.a) := by
  rw [regime_eq hF]; split_ifs with h1 <;> simp only [h1]

theorem regime_nothing_iff (hF : Lawful F) (d : Params α) :
    regime F d = .nothing ↔ 1 / 1000000 * (d.b - d.a) ≤ d.o ∧ d.o < 10 * (d.b - d.a) := by
  rw [regime_eq hF, ← not_lt]
  split_ifs <;> simp only [*, not_true, not_false_iff, and_self, and_false, false_and]

theorem regime_normal_iff (hF : Lawful F) (d : Params α) :
    regime F d = .normal ↔ 1 / 1000000 * (d.b - d.a) ≤ d.o ∧ 10 * (d.b - d.a) ≤ d.o := by
  rw [regime_eq hF, ← not_lt, ← not_lt]
  split_ifs <;> simp only [*, not_true, not_false_iff, and_self, and_false, false_and]

theorem nothing_pos (hF : Lawful F) (d : Params α) (h : regime F d = .nothing) :
    0 < d.o ∧ 0 < d.b - d.a := by
  obtain ⟨h1, h2⟩ := (regime_nothing_iff hF d).mp h
  have hw : 0 < d.b - d.a := by
    by_contra hc
    exact absurd (h1.trans_lt h2) (not_lt.mpr (mul_le_mul_of_nonpos_right (by norm_num) (not_lt.mp hc)))
  exact ⟨(mul_pos tiny_pos hw).trans_le h1, hw⟩

theorem noiseless_pos (hF : Lawful F) (d : Params α) (ho : 0 ≤ d.o) (h : regime F d = .noiseless) :
    0 < d.b - d.a :=
  (mul_pos_iff_of_pos_left tiny_pos).mp (ho.trans_lt ((regime_noiseless_iff hF d).mp h))

/-- **C07-T3, last clause**: the `if o == 0: clip` line after the bisection can never fire -/
theorem clip_branch_unreachable (hF : Lawful F) (d : Params α) (h : regime F d = .nothing) :
    F.eq d.o (F.n 0) = false :=
  Bool.eq_false_iff.mpr fun he => (nothing_pos hF d h).1.ne' (hF.n_zero ▸ (hF.eq_iff _ _).mp he)

theorem regime_degenerate (hF : Lawful F) (d : Params α) (hab : d.a = d.b) (ho : 0 < d.o) :
    regime F d = .normal ∧ pointMass F d = false := by
  refine ⟨?_, pointMass_eq_false hF d (.inr ho.ne')⟩
  rw [regime_normal_iff hF, hab, sub_self, mul_zero, mul_zero]; exact ⟨ho.le, ho.le⟩

theorem cdf_point (d : Params α) (y : α) (hp : pointMass F d = true) :
    cdf F d y = if y < d.a then F.n 0 else F.n 1 := by
  unfold cdf; rw [if_pos hp]

theorem pdf_point (d : Params α) (y : α) (hp : pointMass F d = true) :
    pdf F d y = if F.eq y d.a then F.posInf else F.n 0 := by
  unfold pdf; rw [if_pos hp]

theorem cdf_nothing (d : Params α) (y : α) (hp : pointMass F d = false) (h : regime F d = .nothing) :
    cdf F d y = clip (cdfRaw F d y) (F.n 0) (F.n 1) := by
  unfold cdf; rw [if_neg (by simp [hp]), h]

/-- the argument of `Φ` in the series regime (`point` in the source) -/
def pointOf (d : Params α) (y : α) : α := if d.convex then (y - d.b) / d.o else (y - d.a) / d.o

/-- the scale of the series regime (`scale` in the source) -/
def scaleOf (d : Params α) : α := d.o / (d.b - d.a)

/-- the series branch depends on `(y, a, b, o)` through `point`, `loc`, `scale` alone -/
theorem cdfRaw_eq (d : Params α) (y : α) :
    cdfRaw F d y = if d.convex then F.normalCdf (pointOf d y) + partialMoment F (locOf d y) (scaleOf d) (d.c : Int)
      else F.normalCdf (pointOf d y) - partialMoment F (locOf d y) (scaleOf d) (d.c : Int) := by
  unfold cdfRaw pointOf scaleOf
  cases d.convex <;> rfl

theorem pdfRaw_eq (d : Params α) (y : α) :
    pdfRaw F d y = F.n d.c / (F.n 2 * (d.b - d.a)) * partialMoment F (locOf d y) (scaleOf d) ((d.c : Int) - 2) := rfl

/-- `np.isinf(loc)` (i.e. `y = ±∞`): the partial moment is replaced by `0` -/
theorem partialMoment_of_isInf {loc : α} (h : F.isInf loc = true) (scale : α) (m2 : Int) :
    partialMoment F loc scale m2 = F.n 0 := by
  unfold partialMoment; rw [if_pos h]

theorem cdf_normal (d : Params α) (y : α) (hp : pointMass F d = false) (h : regime F d = .normal) :
    cdf F d y = F.normalCdf ((y - meanOf F d) / F.sqrt (varOf F d)) := by
  unfold cdf; rw [if_neg (by simp [hp]), h]

theorem cdf_noiseless (d : Params α) (y : α) (hp : pointMass F d = false) (h : regime F d = .noiseless) :
    cdf F d y = if d.convex then F.pow ((clip y d.a d.b - d.a) / (d.b - d.a)) (F.n d.c / F.n 2)
      else F.n 1 - F.pow ((d.b - clip y d.a d.b) / (d.b - d.a)) (F.n d.c / F.n 2) := by
  unfold cdf; rw [if_neg (by simp [hp]), h]

theorem pdf_nothing (d : Params α) (y : α) (hp : pointMass F d = false) (h : regime F d = .nothing) :
    pdf F d y = if pdfRaw F d y < F.n 0 then F.n 0 else pdfRaw F d y := by
  unfold pdf; rw [if_neg (by simp [hp]), h]

theorem pdf_normal (d : Params α) (y : α) (hp : pointMass F d = false) (h : regime F d = .normal) :
    pdf F d y = F.normalPdf ((y - meanOf F d) / F.sqrt (varOf F d)) / F.sqrt (varOf F d) := by
  unfold pdf; rw [if_neg (by simp [hp]), h]

theorem pdf_noiseless (d : Params α) (y : α) (hp : pointMass F d = false) (h : regime F d = .noiseless) :
    pdf F d y = if y < d.a ∨ d.b < y then F.n 0
      else if d.convex then
        F.n d.c / (F.n 2 * (d.b - d.a)) * F.pow ((y - d.a) / (d.b - d.a)) (F.n d.c / F.n 2 - F.n 1)
      else
        F.n d.c / (F.n 2 * (d.b - d.a)) * F.pow ((d.b - y) / (d.b - d.a)) (F.n d.c / F.n 2 - F.n 1) := by
  unfold pdf; rw [if_neg (by simp [hp]), h]

/-- **C06-T1**, series regime: the final clips alone give the range, whatever the transcendental functions,
the table and the Chebyshev branch return -/
theorem cdf_range_series (hF : Lawful F) (d : Params α) (y : α)
    (hp : pointMass F d = false) (h : regime F d = .nothing) : 0 ≤ cdf F d y ∧ cdf F d y ≤ 1 := by
  rw [cdf_nothing d y hp h, hF.n_zero, hF.n_one]
  exact clip_mem _ 0 1 zero_le_one

theorem pdf_nonneg_series (hF : Lawful F) (d : Params α) (y : α)
    (hp : pointMass F d = false) (h : regime F d = .nothing) : 0 ≤ pdf F d y := by
  rw [pdf_nothing d y hp h, hF.n_zero]
  split_ifs with h1
  · exact le_rfl
  · exact not_lt.mp h1

theorem cdf_range (hF : Lawful F) (hR : RangeOK F) (d : Params α) (hab : d.a ≤ d.b) (ho : 0 ≤ d.o) (y : α) :
    0 ≤ cdf F d y ∧ cdf F d y ≤ 1 := by
  cases hp : pointMass F d
  · cases h : regime F d
    · -- the argument of `pow` lies in `[0,1]` by the clip
      have hw := noiseless_pos hF d ho h
      obtain ⟨c1, c2⟩ := clip_mem y d.a d.b hab
      have hk : (0:α) ≤ F.n d.c / F.n 2 := div_nonneg (hF.n_nonneg _) (hF.n_nonneg _)
      rw [cdf_noiseless d y hp h]
      split_ifs
      · exact hR.pow01 _ _ (div_nonneg (sub_nonneg.mpr c1) hw.le) ((div_le_one hw).mpr (sub_le_sub_right c2 _)) hk
      · obtain ⟨p0, p1⟩ := hR.pow01 _ _ (div_nonneg (sub_nonneg.mpr c2) hw.le)
          ((div_le_one hw).mpr (sub_le_sub_left c1 _)) hk
        rw [hF.n_one]
        exact ⟨sub_nonneg.mpr p1, sub_le_self _ p0⟩
    · exact cdf_range_series hF d y hp h
    · rw [cdf_normal d y hp h]; exact hR.cdf01 _
  · rw [cdf_point d y hp, hF.n_zero, hF.n_one]
    split_ifs
    · exact ⟨le_rfl, zero_le_one⟩
    · exact ⟨zero_le_one, le_rfl⟩

theorem pdf_nonneg (hF : Lawful F) (hR : RangeOK F) (d : Params α) (ho : 0 ≤ d.o) (y : α) :
    0 ≤ pdf F d y := by
  cases hp : pointMass F d
  · cases h : regime F d
    · have hw := noiseless_pos hF d ho h
      have hc0 : (0:α) ≤ F.n d.c / (F.n 2 * (d.b - d.a)) :=
        div_nonneg (hF.n_nonneg _) (mul_nonneg (hF.n_nonneg _) hw.le)
      rw [pdf_noiseless d y hp h]
      split_ifs with h1 h2
      · rw [hF.n_zero]
      · exact mul_nonneg hc0 (hR.pow0 _ _ (div_nonneg (sub_nonneg.mpr (not_lt.mp fun hc => h1 (Or.inl hc))) hw.le))
      · exact mul_nonneg hc0 (hR.pow0 _ _ (div_nonneg (sub_nonneg.mpr (not_lt.mp fun hc => h1 (Or.inr hc))) hw.le))
    · exact pdf_nonneg_series hF d y hp h
    · rw [pdf_normal d y hp h]; exact div_nonneg (hR.pdf0 _) (hR.sqrt0 _)
  · rw [pdf_point d y hp, hF.n_zero]
    split_ifs
    · exact hR.posInf0
    · exact le_rfl

theorem meanOf_of_eq (d : Params α) (hab : d.a = d.b) : meanOf F d = d.a := by
  simp only [meanOf, hab, sub_self, zero_mul, zero_div, add_zero, ite_self]

theorem varOf_of_eq (d : Params α) (hab : d.a = d.b) : varOf F d = d.o * d.o := by
  simp only [varOf, hab, sub_self, zero_mul, zero_div, add_zero]

/-- **C06-T6**, `a = b`, `o > 0`: the law is exactly `Normal(a, o²)` as computed through `F` -/
theorem cdf_degenerate_normal (hF : Lawful F) (d : Params α) (hab : d.a = d.b) (ho : 0 < d.o) (y : α) :
    cdf F d y = F.normalCdf ((y - d.a) / F.sqrt (d.o * d.o)) := by
  obtain ⟨hr, hp⟩ := regime_degenerate hF d hab ho
  rw [cdf_normal d y hp hr, meanOf_of_eq d hab, varOf_of_eq d hab]

theorem pdf_degenerate_normal (hF : Lawful F) (d : Params α) (hab : d.a = d.b) (ho : 0 < d.o) (y : α) :
    pdf F d y = F.normalPdf ((y - d.a) / F.sqrt (d.o * d.o)) / F.sqrt (d.o * d.o) := by
  obtain ⟨hr, hp⟩ := regime_degenerate hF d hab ho
  rw [pdf_normal d y hp hr, meanOf_of_eq d hab, varOf_of_eq d hab]

theorem cdf_point_mass (hF : Lawful F) (d : Params α) (hab : d.a = d.b) (ho : d.o = 0) (y : α) :
    cdf F d y = if y < d.a then 0 else 1 := by
  rw [cdf_point d y ((pointMass_iff hF d).mpr ⟨hab, ho⟩), hF.n_zero, hF.n_one]

theorem pdf_point_mass (hF : Lawful F) (d : Params α) (hab : d.a = d.b) (ho : d.o = 0) (y : α) :
    pdf F d y = if y = d.a then F.posInf else 0 := by
  rw [pdf_point d y ((pointMass_iff hF d).mpr ⟨hab, ho⟩), hF.n_zero]
  simp only [hF.eq_iff]

theorem midpoint_eq (hF : Lawful F) : midpoint F = fun lo hi : α => (lo + hi) / 2 := by
  funext lo hi; unfold midpoint; rw [hF.n_ofNat]

theorem bracket_le' (d : Params α) (hab : d.a ≤ d.b) (ho : 0 ≤ d.o) : d.a - 6 * d.o ≤ d.b + 6 * d.o :=
  have h6 : 0 ≤ 6 * d.o := mul_nonneg (by norm_num) ho
  (sub_le_self _ h6).trans (hab.trans (le_add_of_nonneg_right h6))

theorem bracket_le (hF : Lawful F) (d : Params α) (hab : d.a ≤ d.b) (ho : 0 ≤ d.o) :
    d.a - F.n 6 * d.o ≤ d.b + F.n 6 * d.o := by
  rw [hF.n_ofNat]; exact bracket_le' d hab ho

theorem ppfBisect_eq (hF : Lawful F) (d : Params α) (q : α) :
    ppfBisect F d q =
      ((Bisect.run (cdf F d) (fun lo hi => (lo + hi) / 2) q 30 (d.a - 6 * d.o, d.b + 6 * d.o)).1
        + (Bisect.run (cdf F d) (fun lo hi => (lo + hi) / 2) q 30 (d.a - 6 * d.o, d.b + 6 * d.o)).2) / 2 := by
  unfold ppfBisect
  rw [bisect_eq_run, midpoint_eq hF, hF.n_ofNat]

/-- **C07-T1** for the term the driver runs: the result of the 30-step bisection is non-decreasing in
`q` for an *arbitrary* cdf (arbitrary `pow`, `Φ`, `φ`, `cos`, table, …) — no monotonicity assumed. -/
theorem ppfBisect_mono (hF : Lawful F) (d : Params α) (hab : d.a ≤ d.b) (ho : 0 ≤ d.o) (q q' : α)
    (hq : q ≤ q') : ppfBisect F d q ≤ ppfBisect F d q' := by
  rw [ppfBisect_eq hF, ppfBisect_eq hF]
  exact Bisect.result_monotone (cdf F d) (fun lo hi => (lo + hi) / 2) midOK_half q q' hq 30 _ _ (bracket_le' d hab ho)

/-- **C07-T2**: bracket invariant and width with the code's constants (6σ on either side, 30 steps) -/
theorem ppfBisect_bracket (hF : Lawful F) (d : Params α) (hab : d.a ≤ d.b) (ho : 0 ≤ d.o) (q : α) :
    let br := bisect (cdf F d) (midpoint F) q 30 (d.a - F.n 6 * d.o, d.b + F.n 6 * d.o)
    d.a - 6 * d.o ≤ br.1 ∧ br.1 ≤ ppfBisect F d q ∧ ppfBisect F d q ≤ br.2 ∧ br.2 ≤ d.b + 6 * d.o
      ∧ br.2 - br.1 = (d.b - d.a + 12 * d.o) / 2 ^ 30 := by
  intro br
  have hbr : br = Bisect.run (cdf F d) (fun lo hi => (lo + hi) / 2) q 30 (d.a - 6 * d.o, d.b + 6 * d.o) := by
    show bisect _ _ _ _ _ = _
    rw [bisect_eq_run, midpoint_eq hF, hF.n_ofNat]
  obtain ⟨h1, m1, m2, h3⟩ := run_chain (cdf F d) q 30 _ _ (bracket_le' d hab ho)
  have hw := run_width (cdf F d) q 30 (d.a - 6 * d.o) (d.b + 6 * d.o)
  rw [← hbr] at h1 m1 m2 h3 hw
  have hp : ppfBisect F d q = (br.1 + br.2) / 2 := by rw [ppfBisect_eq hF, ← hbr]
  refine ⟨h1, hp ▸ m1, hp ▸ m2, h3, ?_⟩
  rw [hw]; ring

/-- **C07-T2'', robust**: the bisection runs on the model's `cdf`, which is within `ε` of a monotone `L`-Lipschitz `G` on the
bracket; the last term is how far `q` lies outside `[G(a−6o), G(b+6o)]`. -/
theorem ppfBisect_accuracy_robust (hF : Lawful F) (d : Params α) (hab : d.a ≤ d.b) (ho : 0 ≤ d.o) (G : α → α) (L ε q : α)
    (hclose : ∀ x, d.a - 6 * d.o ≤ x → x ≤ d.b + 6 * d.o → |cdf F d x - G x| ≤ ε)
    (hmono : ∀ x y, d.a - 6 * d.o ≤ x → x ≤ y → y ≤ d.b + 6 * d.o → G x ≤ G y)
    (hlip : ∀ x y, d.a - 6 * d.o ≤ x → x ≤ y → y ≤ d.b + 6 * d.o → G y - G x ≤ L * (y - x)) :
    |cdf F d (ppfBisect F d q) - q| ≤ 2 * ε + L * ((d.b - d.a + 12 * d.o) / 2 ^ 30)
      + max 0 (max (G (d.a - 6 * d.o) - q) (q - G (d.b + 6 * d.o))) := by
  have := run_accuracy_robust (cdf F d) G L ε q 30 _ _ (bracket_le' d hab ho) hclose hmono hlip
  rw [ppfBisect_eq hF]
  have e : d.b + 6 * d.o - (d.a - 6 * d.o) = d.b - d.a + 12 * d.o := by ring
  rwa [e] at this

/-- **C07-T2'** (conditional accuracy) for the model's own cdf, assumed monotone and `L`-Lipschitz on the bracket: the
case `G = cdf`, `ε = 0` -/
theorem ppfBisect_accuracy (hF : Lawful F) (d : Params α) (hab : d.a ≤ d.b) (ho : 0 ≤ d.o) (L q : α)
    (hmono : ∀ x y, d.a - 6 * d.o ≤ x → x ≤ y → y ≤ d.b + 6 * d.o → cdf F d x ≤ cdf F d y)
    (hlip : ∀ x y, d.a - 6 * d.o ≤ x → x ≤ y → y ≤ d.b + 6 * d.o → cdf F d y - cdf F d x ≤ L * (y - x)) :
    |cdf F d (ppfBisect F d q) - q| ≤ L * ((d.b - d.a + 12 * d.o) / 2 ^ 30)
      + max 0 (max (cdf F d (d.a - 6 * d.o) - q) (q - cdf F d (d.b + 6 * d.o))) := by
  have := ppfBisect_accuracy_robust hF d hab ho (cdf F d) L 0 q (fun x _ _ => by rw [sub_self, abs_zero]) hmono hlip
  rwa [mul_zero, zero_add] at this

theorem ppf_point (d : Params α) (q : α) (hp : pointMass F d = true) : ppf F d q = d.a := by
  unfold ppf; simp only [hp, if_true]

theorem ppf_noiseless (d : Params α) (q : α) (hp : pointMass F d = false) (h : regime F d = .noiseless) :
    ppf F d q = if d.convex then d.a + (d.b - d.a) * F.pow (clip q (F.n 0) (F.n 1)) (F.n 2 / F.n d.c)
      else d.b - (d.b - d.a) * F.pow (F.n 1 - clip q (F.n 0) (F.n 1)) (F.n 2 / F.n d.c) := by
  unfold ppf; simp only [hp, h, Bool.false_eq_true, if_false]

theorem ppf_normal (d : Params α) (q : α) (hp : pointMass F d = false) (h : regime F d = .normal) :
    ppf F d q = meanOf F d + F.sqrt (varOf F d) * F.normalPpf (clip q (F.n 0) (F.n 1)) := by
  unfold ppf; simp only [hp, h, Bool.false_eq_true, if_false]

theorem ppf_nothing (hF : Lawful F) (d : Params α) (q : α) (hp : pointMass F d = false)
    (h : regime F d = .nothing) :
    ppf F d q = if clip q 0 1 = 0 then F.negInf else if clip q 0 1 = 1 then F.posInf
      else ppfBisect F d (clip q 0 1) := by
  have hu := clip_branch_unreachable hF d h
  rw [hF.n_zero] at hu
  unfold ppf
  simp only [hp, h, hu, hF.n_zero, hF.n_one, hF.eq_iff, Bool.false_eq_true, if_false]

/-- **C07-T3**: `ppf(0) = a`, `ppf(1) = b` in the noiseless regime (which contains `o = 0 < b − a`),
for any `pow` with `0^k = 0` and `1^k = 1` -/
theorem ppf_endpoints_noiseless (hF : Lawful F) (d : Params α) (hp : pointMass F d = false)
    (h : regime F d = .noiseless) (hp0 : F.pow 0 (F.n 2 / F.n d.c) = 0) (hp1 : F.pow 1 (F.n 2 / F.n d.c) = 1) :
    ppf F d 0 = d.a ∧ ppf F d 1 = d.b := by
  rw [ppf_noiseless d 0 hp h, ppf_noiseless d 1 hp h, hF.n_zero, hF.n_one,
    clip_of_mem (0:α) 0 1 le_rfl zero_le_one, clip_of_mem (1:α) 0 1 zero_le_one le_rfl]
  split_ifs <;> simp [hp0, hp1]

/-- **C07-T1, whole method**: in the series regime `ppf` is non-decreasing on all of its domain, including
the two explicit end-point values, as soon as they lie outside the bracket (`−∞ ≤ a−6o`, `b+6o ≤ +∞`). -/
theorem ppf_mono_series (hF : Lawful F) (d : Params α) (hp : pointMass F d = false)
    (h : regime F d = .nothing) (hneg : F.negInf ≤ d.a - 6 * d.o) (hpos : d.b + 6 * d.o ≤ F.posInf)
    (q q' : α) (hq : q ≤ q') : ppf F d q ≤ ppf F d q' := by
  have ho : 0 ≤ d.o := (nothing_pos hF d h).1.le
  have hab : d.a ≤ d.b := (sub_pos.mp (nothing_pos hF d h).2).le
  have hin : ∀ x, F.negInf ≤ ppfBisect F d x ∧ ppfBisect F d x ≤ F.posInf := fun x =>
    have ⟨i1, i2, i3, i4, _⟩ := ppfBisect_bracket hF d hab ho x
    ⟨hneg.trans (i1.trans i2), (i3.trans i4).trans hpos⟩
  have hnp : F.negInf ≤ F.posInf := (hin 0).1.trans (hin 0).2
  -- `ppf q = G (clip q)`, and every value of `G` lies between its two end values
  have hG : ∀ c : α, F.negInf ≤ (if c = 0 then F.negInf else if c = 1 then F.posInf else ppfBisect F d c)
      ∧ (if c = 0 then F.negInf else if c = 1 then F.posInf else ppfBisect F d c) ≤ F.posInf := fun c => by
    split_ifs
    exacts [⟨le_rfl, hnp⟩, ⟨hnp, le_rfl⟩, hin c]
  rw [ppf_nothing hF d q hp h, ppf_nothing hF d q' hp h]
  have hc := clip_mono q q' (0:α) 1 zero_le_one hq
  have a0 := (clip_mem q (0:α) 1 zero_le_one).1
  have b1 := (clip_mem q' (0:α) 1 zero_le_one).2
  by_cases e0 : clip q 0 1 = 0
  · rw [if_pos e0]; exact (hG _).1
  by_cases e1 : clip q' 0 1 = 1
  · rw [if_neg (e1.trans_ne one_ne_zero), if_pos e1]; exact (hG _).2
  -- `clip q ≠ 0`, `clip q' ≠ 1` and `clip q ≤ clip q'` exclude the other two end-point branches: `clip q' ≠ 0`, `clip q ≠ 1`
  rw [if_neg e0, if_neg fun e => e1 (b1.antisymm (e.ge.trans hc)), if_neg fun e => e0 ((hc.trans e.le).antisymm a0),
    if_neg e1]
  exact ppfBisect_mono hF d hab ho _ _ hc

end Opda.Noisy

import OpdaModel.Emp
import Mathlib.Algebra.Order.Field.Basic
import Mathlib.Order.BoundedOrder.Basic
import Mathlib.Tactic
/-!
The constructor model of `EmpiricalDistribution` (`OpdaModel/Emp.lean`) against its specification.

Everything the model computes from a list of `(value, weight)` pairs is read off sums `Σ φ(value)·weight` (`phiSum`): the
weight `≤ y`, `= y`, `< y`, the total, the tuning-curve averages.  Merging ties (`insertAtom`, `atoms`) and padding
(`support`) preserve every such sum, and a strictly sorted list is determined by its keys and the weight at each key; the
statements about `cdf`, `pmf`, `ppf` follow from these two facts.
-/
-- From `weightLE` on, the section gives every lemma `[LinearOrder E] [Field α] [LinearOrder α] [IsStrictOrderedRing α]`, more than
-- most need.  The fixed statements (`cdf_support`, `pmf_support`, `ppf_le_iff` here; those of `Props/C03`, `C04`) must have
-- exactly these four instance arguments; the `unusedSectionVars` linter flags such a statement as soon as a lemma its proof
-- uses needs fewer, so the lemmas keep all four and the linter is off.
set_option linter.unusedSectionVars false
namespace Opda.Emp

-- weights in any additive commutative monoid: `Fit.lean` uses this section for counts in ℕ
section structural
variable {E α : Type}

def Sorted [LT E] (l : List (E × α)) : Prop := l.Pairwise fun p q => p.1 < q.1

theorem sorted_cons [LT E] {p : E × α} {l : List (E × α)} :
    Sorted (p :: l) ↔ (∀ q ∈ l, p.1 < q.1) ∧ Sorted l := List.pairwise_cons

variable [LinearOrder E] [AddCommMonoid α] {β : Type} [AddCommMonoid β]

theorem insertAtom_lt {v u : E} {w x : α} {tl : List (E × α)} (h : v < u) :
    insertAtom v w ((u, x) :: tl) = (v, w) :: (u, x) :: tl := if_pos h

theorem insertAtom_eq {v : E} {w x : α} {tl : List (E × α)} :
    insertAtom v w ((v, x) :: tl) = (v, x + w) :: tl := (if_neg (lt_irrefl v)).trans (if_pos rfl)

theorem insertAtom_gt {v u : E} {w x : α} {tl : List (E × α)} (h1 : ¬ v < u) (h2 : v ≠ u) :
    insertAtom v w ((u, x) :: tl) = (u, x) :: insertAtom v w tl := (if_neg h1).trans (if_neg h2)

theorem insertAtom_cases (v : E) (w : α) (u : E) (x : α) (tl : List (E × α)) :
    (v < u ∧ insertAtom v w ((u, x) :: tl) = (v, w) :: (u, x) :: tl)
    ∨ (v = u ∧ insertAtom v w ((u, x) :: tl) = (u, x + w) :: tl)
    ∨ (u < v ∧ insertAtom v w ((u, x) :: tl) = (u, x) :: insertAtom v w tl) := by
  rcases lt_trichotomy v u with h | h | h
  · exact Or.inl ⟨h, insertAtom_lt h⟩
  · subst h; exact Or.inr (Or.inl ⟨rfl, insertAtom_eq⟩)
  · exact Or.inr (Or.inr ⟨h, insertAtom_gt h.not_gt h.ne'⟩)

theorem atoms_cons (o : E × α) (obs : List (E × α)) : atoms (o :: obs) = insertAtom o.1 o.2 (atoms obs) := rfl

theorem mem_keys_insertAtom (z v : E) (w : α) (l : List (E × α)) :
    z ∈ (insertAtom v w l).map Prod.fst ↔ z = v ∨ z ∈ l.map Prod.fst := by
  induction l with
  | nil => simp [insertAtom]
  | cons hd tl ih =>
    obtain ⟨u, x⟩ := hd
    rcases insertAtom_cases v w u x tl with ⟨_, he⟩ | ⟨rfl, he⟩ | ⟨_, he⟩ <;> rw [he]
    · simp only [List.map_cons, List.mem_cons]
    · simp only [List.map_cons, List.mem_cons, or_self_left]
    · simp only [List.map_cons, List.mem_cons, ih, or_left_comm]

theorem mem_keys_atoms (z : E) (obs : List (E × α)) : z ∈ (atoms obs).map Prod.fst ↔ z ∈ obs.map Prod.fst := by
  induction obs with
  | nil => rfl
  | cons o tl ih => rw [atoms_cons, mem_keys_insertAtom, ih, List.map_cons, List.mem_cons]

theorem mem_atoms {obs : List (E × α)} {p : E × α} (hp : p ∈ atoms obs) : ∃ p' ∈ obs, p'.1 = p.1 :=
  let ⟨p', hp', he⟩ := List.mem_map.mp ((mem_keys_atoms p.1 obs).mp (List.mem_map_of_mem hp)); ⟨p', hp', he⟩

theorem sorted_insertAtom (v : E) (w : α) (l : List (E × α)) (hs : Sorted l) : Sorted (insertAtom v w l) := by
  induction l with
  | nil => exact List.pairwise_singleton _ _
  | cons hd tl ih =>
    obtain ⟨u, x⟩ := hd
    obtain ⟨hlt, hs'⟩ := sorted_cons.mp hs
    rcases insertAtom_cases v w u x tl with ⟨h, he⟩ | ⟨h, he⟩ | ⟨h, he⟩ <;> rw [he]
    · exact sorted_cons.mpr ⟨List.forall_mem_cons.mpr ⟨h, fun p hp => h.trans (hlt p hp)⟩, hs⟩
    · exact sorted_cons.mpr ⟨hlt, hs'⟩
    · refine sorted_cons.mpr ⟨fun p hp => ?_, ih hs'⟩
      rcases (mem_keys_insertAtom p.1 v w tl).mp (List.mem_map_of_mem hp) with h' | h'
      · exact h'.symm ▸ h
      · obtain ⟨p', hp', he'⟩ := List.mem_map.mp h'
        exact he' ▸ hlt p' hp'

theorem sorted_atoms (obs : List (E × α)) : Sorted (atoms obs) := by
  induction obs with
  | nil => exact List.Pairwise.nil
  | cons o tl ih => exact sorted_insertAtom _ _ _ ih

theorem sum_map_insertAtom (g : E → α → β) (hg : ∀ u x w, g u (x + w) = g u x + g u w) (v : E) (w : α)
    (l : List (E × α)) :
    ((insertAtom v w l).map fun p => g p.1 p.2).sum = g v w + (l.map fun p => g p.1 p.2).sum := by
  induction l with
  | nil => rfl
  | cons hd tl ih =>
    obtain ⟨u, x⟩ := hd
    rcases insertAtom_cases v w u x tl with ⟨_, he⟩ | ⟨rfl, he⟩ | ⟨_, he⟩ <;> rw [he]
    · rfl
    · simp only [List.map_cons, List.sum_cons, hg, add_left_comm, add_assoc]
    · simp only [List.map_cons, List.sum_cons, ih, add_left_comm]

theorem sum_map_atoms (g : E → α → β) (hg : ∀ u x w, g u (x + w) = g u x + g u w) (obs : List (E × α)) :
    ((atoms obs).map fun p => g p.1 p.2).sum = (obs.map fun p => g p.1 p.2).sum := by
  induction obs with
  | nil => rfl
  | cons o tl ih => rw [atoms_cons, sum_map_insertAtom g hg, ih, List.map_cons, List.sum_cons]

end structural

variable {E α : Type} [LinearOrder E] [Field α] [LinearOrder α] [IsStrictOrderedRing α]

def weightLE (y : E) : List (E × α) → α
  | [] => 0
  | (u, x) :: rest => (if u ≤ y then x else 0) + weightLE y rest

def weightEq (y : E) : List (E × α) → α
  | [] => 0
  | (u, x) :: rest => (if u = y then x else 0) + weightEq y rest

def weightLT (y : E) : List (E × α) → α
  | [] => 0
  | (u, x) :: rest => (if u < y then x else 0) + weightLT y rest

def NonNeg (l : List (E × α)) : Prop := ∀ p ∈ l, 0 ≤ p.2

omit [LinearOrder E] in
theorem nonNeg_cons {p : E × α} {l : List (E × α)} : NonNeg (p :: l) ↔ 0 ≤ p.2 ∧ NonNeg l := List.forall_mem_cons

def phiSum (φ : E → α) (l : List (E × α)) : α := (l.map fun p => φ p.1 * p.2).sum

def mapObs {E' : Type} (ν : E → E') (obs : List (E × α)) : List (E' × α) := obs.map fun p => (ν p.1, p.2)

theorem phiSum_nil (φ : E → α) : phiSum φ ([] : List (E × α)) = 0 := rfl

section calculus
omit [LinearOrder E]

theorem phiSum_cons (φ : E → α) (p : E × α) (l : List (E × α)) :
    phiSum φ (p :: l) = φ p.1 * p.2 + phiSum φ l := List.sum_cons

theorem phiSum_append (φ : E → α) (L M : List (E × α)) : phiSum φ (L ++ M) = phiSum φ L + phiSum φ M := by
  simp only [phiSum, List.map_append, List.sum_append]

theorem phiSum_reverse (φ : E → α) (l : List (E × α)) : phiSum φ l.reverse = phiSum φ l := by
  simp only [phiSum, List.map_reverse, List.sum_reverse]

theorem phiSum_perm (φ : E → α) {l l' : List (E × α)} (h : l.Perm l') : phiSum φ l = phiSum φ l' :=
  (h.map _).sum_eq

theorem phiSum_congr {φ ψ : E → α} {l : List (E × α)} (h : ∀ p ∈ l, φ p.1 = ψ p.1) : phiSum φ l = phiSum ψ l := by
  unfold phiSum
  rw [List.map_congr_left fun p hp => by rw [h p hp]]

theorem phiSum_zero (l : List (E × α)) : phiSum (fun _ => (0 : α)) l = 0 := by
  simp only [phiSum, zero_mul, List.map_const', List.sum_replicate, smul_zero]

theorem phiSum_add (φ ψ : E → α) (l : List (E × α)) : phiSum (fun u => φ u + ψ u) l = phiSum φ l + phiSum ψ l := by
  simp only [phiSum, add_mul, List.sum_map_add]

theorem phiSum_neg (φ : E → α) (l : List (E × α)) : phiSum (fun u => -φ u) l = -phiSum φ l := by
  rw [eq_neg_iff_add_eq_zero, ← phiSum_add]; simp only [neg_add_cancel, phiSum_zero]

theorem phiSum_mapObs {E' : Type} (φ : E' → α) (ν : E → E') (l : List (E × α)) :
    phiSum φ (mapObs ν l) = phiSum (fun u => φ (ν u)) l := by
  simp only [phiSum, mapObs, List.map_map, Function.comp_def]

theorem keys_mapObs {E' : Type} (ν : E → E') (l : List (E × α)) : (mapObs ν l).map Prod.fst = (l.map Prod.fst).map ν := by
  simp only [mapObs, List.map_map, Function.comp_def]

theorem pairwise_mapObs {E' : Type} (R : E' → E' → Prop) (ν : E → E') (l : List (E × α)) :
    (mapObs ν l).Pairwise (fun p q => R p.1 q.1) ↔ l.Pairwise fun p q => R (ν p.1) (ν q.1) := List.pairwise_map

theorem nonNeg_mapObs {E' : Type} (ν : E → E') (obs : List (E × α)) (hn : NonNeg obs) : NonNeg (mapObs ν obs) := by
  intro p hp
  obtain ⟨q, hq, rfl⟩ := List.mem_map.mp hp
  exact hn q hq

/-- dropping pairs of weight 0 changes no sum -/
theorem phiSum_filter (φ : E → α) (P : E × α → Bool) (l : List (E × α)) (h : ∀ p ∈ l, P p = false → p.2 = 0) :
    phiSum φ (l.filter P) = phiSum φ l := by
  induction l with
  | nil => rfl
  | cons hd tl ih =>
    obtain ⟨h1, h2⟩ := List.forall_mem_cons.mp h
    cases hP : P hd
    · rw [List.filter_cons_of_neg (by simp [hP]), ih h2, phiSum_cons, h1 hP, mul_zero, zero_add]
    · rw [List.filter_cons_of_pos hP, phiSum_cons, phiSum_cons, ih h2]

theorem phiSum_le {φ ψ : E → α} {l : List (E × α)} (hn : NonNeg l) (h : ∀ p ∈ l, φ p.1 ≤ ψ p.1) :
    phiSum φ l ≤ phiSum ψ l :=
  List.sum_le_sum fun p hp => mul_le_mul_of_nonneg_right (h p hp) (hn p hp)

theorem phiSum_nonneg {φ : E → α} {l : List (E × α)} (hn : NonNeg l) (h : ∀ p ∈ l, 0 ≤ φ p.1) : 0 ≤ phiSum φ l :=
  (phiSum_zero l).symm.trans_le (phiSum_le hn h)

theorem phiSum_pos_iff {φ : E → α} (hφ : ∀ v, 0 ≤ φ v) {l : List (E × α)} (hn : NonNeg l) :
    0 < phiSum φ l ↔ ∃ p ∈ l, 0 < φ p.1 ∧ 0 < p.2 := by
  induction l with
  | nil => exact ⟨fun h => absurd h (lt_irrefl _), fun ⟨_, hp, _⟩ => absurd hp List.not_mem_nil⟩
  | cons hd tl ih =>
    obtain ⟨hw, hn'⟩ := nonNeg_cons.mp hn
    have h0 := mul_nonneg (hφ hd.1) hw
    have hr := phiSum_nonneg hn' fun p _ => hφ p.1
    rw [phiSum_cons, List.exists_mem_cons_iff, ← ih hn']
    constructor
    · intro h
      by_contra hc
      rw [not_or, not_lt] at hc
      have ha : 0 < φ hd.1 * hd.2 := h.trans_le (add_le_of_nonpos_right hc.2)
      exact hc.1 ⟨pos_of_mul_pos_left ha hw, pos_of_mul_pos_right ha (hφ _)⟩
    · rintro (h | h)
      · exact add_pos_of_pos_of_nonneg (mul_pos h.1 h.2) hr
      · exact add_pos_of_nonneg_of_pos h0 h

end calculus

theorem phiSum_insertAtom (φ : E → α) (v : E) (w : α) (l : List (E × α)) :
    phiSum φ (insertAtom v w l) = φ v * w + phiSum φ l :=
  sum_map_insertAtom (fun u x => φ u * x) (fun _ _ _ => mul_add _ _ _) v w l

theorem phiSum_atoms (φ : E → α) (obs : List (E × α)) : phiSum φ (atoms obs) = phiSum φ obs :=
  sum_map_atoms (fun u x => φ u * x) (fun _ _ _ => mul_add _ _ _) obs

theorem phiSum_support [OrderBot E] [OrderTop E] (φ : E → α) (a b : E) (obs : List (E × α)) :
    phiSum φ (support ⊥ ⊤ a b obs) = phiSum φ obs := by
  simp only [support, phiSum_insertAtom, phiSum_atoms, mul_zero, zero_add]

/-- a recursion "add the weight where `P` holds" is the sum against the indicator of `P` -/
theorem eq_phiSum_indicator (P : E → Prop) [DecidablePred P] (f : List (E × α) → α) (h0 : f [] = 0)
    (hc : ∀ u x rest, f ((u, x) :: rest) = (if P u then x else 0) + f rest) (l : List (E × α)) :
    f l = phiSum (fun u => if P u then 1 else 0) l := by
  induction l with
  | nil => exact h0
  | cons p l ih => rw [hc, phiSum_cons, ih, ite_mul, one_mul, zero_mul]

theorem weightLE_eq_phiSum (y : E) (l : List (E × α)) : weightLE y l = phiSum (fun u => if u ≤ y then 1 else 0) l :=
  eq_phiSum_indicator (· ≤ y) (weightLE y) rfl (fun _ _ _ => rfl) l

theorem weightEq_eq_phiSum (y : E) (l : List (E × α)) : weightEq y l = phiSum (fun u => if u = y then 1 else 0) l :=
  eq_phiSum_indicator (· = y) (weightEq y) rfl (fun _ _ _ => rfl) l

theorem weightLT_eq_phiSum (y : E) (l : List (E × α)) : weightLT y l = phiSum (fun u => if u < y then 1 else 0) l :=
  eq_phiSum_indicator (· < y) (weightLT y) rfl (fun _ _ _ => rfl) l

omit [LinearOrder E] in
theorem total_eq_phiSum (l : List (E × α)) : total l = phiSum (fun _ => 1) l := by
  induction l with
  | nil => rfl
  | cons p l ih => simp only [total, phiSum_cons, ih, one_mul]

theorem total_insertAtom (v : E) (w : α) (l : List (E × α)) : total (insertAtom v w l) = w + total l := by
  simp only [total_eq_phiSum, phiSum_insertAtom, one_mul]

theorem weightEq_atoms (y : E) (obs : List (E × α)) : weightEq y (atoms obs) = weightEq y obs := by
  simp only [weightEq_eq_phiSum, phiSum_atoms]

theorem total_atoms (obs : List (E × α)) : total (atoms obs) = total obs := by
  simp only [total_eq_phiSum, phiSum_atoms]

theorem total_append (L M : List (E × α)) : total (L ++ M) = total L + total M := by
  simp only [total_eq_phiSum, phiSum_append]

theorem total_reverse (l : List (E × α)) : total l.reverse = total l := by
  simp only [total_eq_phiSum, phiSum_reverse]

theorem total_mapObs {E' : Type} (ν : E → E') (l : List (E × α)) : total (mapObs ν l) = total l := by
  rw [total_eq_phiSum, total_eq_phiSum, phiSum_mapObs]

theorem total_unit (s : List E) : total (s.map fun y => (y, (1 : α))) = (s.length : α) := by
  induction s with
  | nil => exact Nat.cast_zero.symm
  | cons hd tl ih => rw [List.map_cons, total, ih, List.length_cons, Nat.cast_succ, add_comm]

theorem weightLE_nonneg (y : E) (l : List (E × α)) (h : NonNeg l) : 0 ≤ weightLE y l := by
  rw [weightLE_eq_phiSum]
  exact phiSum_nonneg h fun p _ => by split_ifs <;> norm_num

theorem weightEq_nonneg (y : E) (l : List (E × α)) (h : NonNeg l) : 0 ≤ weightEq y l := by
  rw [weightEq_eq_phiSum]
  exact phiSum_nonneg h fun p _ => by split_ifs <;> norm_num

theorem weightLT_nonneg (y : E) (l : List (E × α)) (h : NonNeg l) : 0 ≤ weightLT y l := by
  rw [weightLT_eq_phiSum]
  exact phiSum_nonneg h fun p _ => by split_ifs <;> norm_num

omit [LinearOrder E] in
theorem total_nonneg (l : List (E × α)) (h : NonNeg l) : 0 ≤ total l := by
  rw [total_eq_phiSum]
  exact phiSum_nonneg h fun _ _ => zero_le_one

theorem weightLE_eq_zero_of_all_gt (y : E) (l : List (E × α)) (h : ∀ p ∈ l, y < p.1) : weightLE y l = 0 := by
  rw [weightLE_eq_phiSum]
  exact (phiSum_congr fun p hp => if_neg (h p hp).not_ge).trans (phiSum_zero l)

theorem weightEq_eq_zero_of_all_gt (y : E) (l : List (E × α)) (h : ∀ p ∈ l, y < p.1) : weightEq y l = 0 := by
  rw [weightEq_eq_phiSum]
  exact (phiSum_congr fun p hp => if_neg (h p hp).ne').trans (phiSum_zero l)

theorem nonNeg_insertAtom (v : E) (w : α) (hw : 0 ≤ w) (l : List (E × α)) (hl : NonNeg l) :
    NonNeg (insertAtom v w l) := by
  induction l with
  | nil => exact nonNeg_cons.mpr ⟨hw, hl⟩
  | cons hd tl ih =>
    obtain ⟨u, x⟩ := hd
    obtain ⟨hx, htl⟩ := nonNeg_cons.mp hl
    rcases insertAtom_cases v w u x tl with ⟨_, he⟩ | ⟨_, he⟩ | ⟨_, he⟩ <;> rw [he]
    · exact nonNeg_cons.mpr ⟨hw, hl⟩
    · exact nonNeg_cons.mpr ⟨add_nonneg hx hw, htl⟩
    · exact nonNeg_cons.mpr ⟨hx, ih htl⟩

theorem nonNeg_atoms (obs : List (E × α)) (h : NonNeg obs) : NonNeg (atoms obs) := by
  induction obs with
  | nil => exact h
  | cons o tl ih => exact nonNeg_insertAtom _ _ (nonNeg_cons.mp h).1 _ (ih (nonNeg_cons.mp h).2)

theorem weightEq_of_mem_sorted {l : List (E × α)} (hs : Sorted l) {p : E × α} (hp : p ∈ l) :
    weightEq p.1 l = p.2 := by
  induction l with
  | nil => cases hp
  | cons hd tl ih =>
    obtain ⟨hlt, hs'⟩ := sorted_cons.mp hs
    rcases List.mem_cons.mp hp with rfl | hp'
    · rw [weightEq, if_pos rfl, weightEq_eq_zero_of_all_gt _ tl hlt, add_zero]
    · rw [weightEq, if_neg (hlt p hp').ne, zero_add, ih hs' hp']

theorem sorted_eq_map {l : List (E × α)} (hs : Sorted l) :
    l = (l.map Prod.fst).map fun u => (u, weightEq u l) := by
  rw [List.map_map]
  exact (List.map_id' l).symm.trans (List.map_congr_left fun p hp => by
    rw [Function.comp_apply, weightEq_of_mem_sorted hs hp])

theorem Sorted.ext {l l' : List (E × α)} (hs : Sorted l) (hs' : Sorted l')
    (hk : ∀ u, u ∈ l.map Prod.fst ↔ u ∈ l'.map Prod.fst) (hw : ∀ u, weightEq u l = weightEq u l') : l = l' := by
  have hkeys : l.map Prod.fst = l'.map Prod.fst :=
    (List.pairwise_map.mpr hs).eq_of_mem_iff (List.pairwise_map.mpr hs') hk
  rw [sorted_eq_map hs, sorted_eq_map hs', hkeys]
  exact List.map_congr_left fun u _ => by rw [hw]

theorem atoms_unique {obs l : List (E × α)} (hs : Sorted l) (hk : ∀ u, u ∈ l.map Prod.fst ↔ u ∈ obs.map Prod.fst)
    (hw : ∀ u, weightEq u l = weightEq u obs) : atoms obs = l :=
  Sorted.ext (sorted_atoms obs) hs (fun u => (mem_keys_atoms u obs).trans (hk u).symm)
    fun u => (weightEq_atoms u obs).trans (hw u).symm

theorem atoms_perm {obs obs' : List (E × α)} (h : obs.Perm obs') : atoms obs = atoms obs' :=
  atoms_unique (sorted_atoms obs') (fun u => (mem_keys_atoms u obs').trans (h.map _).mem_iff.symm)
    fun u => by rw [weightEq_atoms, weightEq_eq_phiSum, weightEq_eq_phiSum, phiSum_perm _ h]

theorem nth?_map {β γ : Type} (f : β → γ) (k : Nat) (l : List β) : nth? k (l.map f) = (nth? k l).map f := by
  induction l generalizing k with
  | nil => simp [nth?]
  | cons hd tl ih => cases k <;> simp [nth?, ih]

theorem ssRight_le_length (y : E) (l : List (E × α)) : ssRight y l ≤ l.length := by
  induction l with
  | nil => simp [ssRight]
  | cons hd tl ih =>
    obtain ⟨u, x⟩ := hd
    simp only [ssRight, List.length_cons]
    split_ifs <;> omega

theorem nth?_lt_length {β : Type} (k : Nat) (l : List β) (h : k < l.length) : ∃ p, nth? k l = some p := by
  induction l generalizing k with
  | nil => simp at h
  | cons hd tl ih =>
    cases k with
    | zero => exact ⟨hd, rfl⟩
    | succ k => simpa [nth?] using ih k (by simpa using h)

theorem nth?_cons_zero {β : Type} (p : β) (l : List β) : nth? 0 (p :: l) = some p := rfl

theorem nth?_cons_succ {β : Type} (k : Nat) (p : β) (l : List β) : nth? (k + 1) (p :: l) = nth? k l := rfl

theorem pyIndexPred_succ {β : Type} (k : Nat) (l : List β) : pyIndexPred (k + 1) l = nth? k l := rfl

theorem cumAux_cons (acc : α) (u : E) (x : α) (rest : List (E × α)) :
    cumAux acc ((u, x) :: rest) = (u, acc + x) :: cumAux (acc + x) rest := rfl

/-- on a strictly sorted list, the running sum at the last entry `≤ y` (index `searchsorted(y, 'right')` counted behind a
head that is itself `≤ y`) is the head's level plus the weight `≤ y` of the rest -/
theorem nth?_cumAux_ssRight (y : E) (acc : α) (u : E) (x : α) (tl : List (E × α)) (hs : Sorted ((u, x) :: tl)) :
    ∃ k, nth? (ssRight y tl) (cumAux acc ((u, x) :: tl)) = some (k, acc + x + weightLE y tl) := by
  induction tl generalizing u x acc with
  | nil => exact ⟨u, by rw [weightLE, add_zero, ssRight, cumAux_cons, nth?_cons_zero]⟩
  | cons hd tl ih =>
    obtain ⟨u', x'⟩ := hd
    obtain ⟨hlt, hs'⟩ := sorted_cons.mp hs
    by_cases hu : u' ≤ y
    · obtain ⟨k, hk⟩ := ih (acc + x) u' x' hs'
      refine ⟨k, ?_⟩
      -- one step into the tail, with the accumulator advanced by the head
      rw [ssRight, if_pos hu, Nat.add_comm, cumAux_cons, nth?_cons_succ, hk, weightLE, if_pos hu, add_assoc]
    · refine ⟨u, ?_⟩
      rw [ssRight, if_neg hu, weightLE_eq_zero_of_all_gt y _ (List.forall_mem_cons.mpr
        ⟨not_le.mp hu, fun q hq => (not_le.mp hu).trans ((sorted_cons.mp hs').1 q hq)⟩), add_zero, cumAux_cons,
        nth?_cons_zero]

/-- **C03-T1 (core)**: on a strictly sorted support whose least atom is ≤ y,
`_ws_cumsum[searchsorted(_ys, y, 'right') − 1]` is the weight of the atoms ≤ y, normalised.  The head `≤ y` (`hhead`) makes
`searchsorted ≥ 1`, so the index never is `−1` and Python's wrap to the last element (`pyIndexPred 0`) is not taken; the
padding atom at `⊥` is what guarantees it for the constructor's support. -/
theorem cdf_eq_weightLE (supp : List (E × α)) (hs : Sorted supp) (y : E)
    (hhead : ∃ u x tl, supp = (u, x) :: tl ∧ u ≤ y) :
    cdf supp y = weightLE y supp / total supp := by
  obtain ⟨u, x, tl, rfl, hu⟩ := hhead
  obtain ⟨k, hk⟩ := nth?_cumAux_ssRight y 0 u x tl hs
  unfold cdf cumN cum
  rw [ssRight, if_pos hu, Nat.add_comm, pyIndexPred_succ, nth?_map, hk]
  simp only [Option.map_some, weightLE, if_pos hu, zero_add]

variable [OrderBot E] [OrderTop E]

theorem sorted_support (a b : E) (obs : List (E × α)) : Sorted (support ⊥ ⊤ a b obs) :=
  sorted_insertAtom _ _ _ (sorted_insertAtom _ _ _ (sorted_insertAtom _ _ _
    (sorted_insertAtom _ _ _ (sorted_atoms obs))))

theorem nonNeg_support (a b : E) (obs : List (E × α)) (h : NonNeg obs) : NonNeg (support ⊥ ⊤ a b obs) :=
  nonNeg_insertAtom _ _ le_rfl _ (nonNeg_insertAtom _ _ le_rfl _ (nonNeg_insertAtom _ _ le_rfl _
    (nonNeg_insertAtom _ _ le_rfl _ (nonNeg_atoms obs h))))

theorem weightLE_support (a b y : E) (obs : List (E × α)) :
    weightLE y (support ⊥ ⊤ a b obs) = weightLE y obs := by
  simp only [weightLE_eq_phiSum, phiSum_support]

theorem weightEq_support (a b y : E) (obs : List (E × α)) :
    weightEq y (support ⊥ ⊤ a b obs) = weightEq y obs := by
  simp only [weightEq_eq_phiSum, phiSum_support]

theorem total_support (a b : E) (obs : List (E × α)) : total (support ⊥ ⊤ a b obs) = total obs := by
  simp only [total_eq_phiSum, phiSum_support]

theorem head_insertAtom_bot (w : α) (l : List (E × α)) :
    ∃ x tl, insertAtom (⊥ : E) w l = ((⊥ : E), x) :: tl := by
  cases l with
  | nil => exact ⟨w, [], rfl⟩
  | cons hd tl =>
    obtain ⟨u, x⟩ := hd
    rcases insertAtom_cases (⊥ : E) w u x tl with ⟨_, he⟩ | ⟨h, he⟩ | ⟨h, _⟩
    · exact ⟨w, (u, x) :: tl, he⟩
    · subst h; exact ⟨x + w, tl, he⟩
    · exact absurd h (not_lt_bot)

/-- The head's weight is not followed through the four padding insertions: whatever it is, it is the weight the sorted
support puts at `⊥` (`weightEq_of_mem_sorted`), and padding does not change that (`weightEq_support`). -/
theorem support_head (a b : E) (obs : List (E × α)) :
    ∃ tl, support ⊥ ⊤ a b obs = ((⊥ : E), weightEq ⊥ obs) :: tl := by
  obtain ⟨x, tl, he⟩ := head_insertAtom_bot (E := E) (0 : α)
    (insertAtom a 0 (insertAtom b 0 (insertAtom ⊤ 0 (atoms obs))))
  have hsupp : support ⊥ ⊤ a b obs = ((⊥ : E), x) :: tl := he
  have hw : weightEq ⊥ (support ⊥ ⊤ a b obs) = x :=
    weightEq_of_mem_sorted (sorted_support a b obs) (p := (⊥, x)) (by rw [hsupp]; exact List.mem_cons_self)
  exact ⟨tl, by rw [hsupp, ← hw, weightEq_support]⟩

/-- **C03-T1**: for every list of (value, weight) observations, every bound pair and every query,
the model's cdf is the total weight of the observations ≤ y divided by the total weight. -/
theorem cdf_support (a b y : E) (obs : List (E × α)) :
    cdf (support ⊥ ⊤ a b obs) y = weightLE y obs / total obs := by
  obtain ⟨tl, he⟩ := support_head (α := α) a b obs
  rw [cdf_eq_weightLE _ (sorted_support a b obs) y ⟨⊥, _, tl, he, bot_le⟩, weightLE_support, total_support]

theorem ssLeft_spec (y : E) (l : List (E × α)) (hs : Sorted l) :
    (match nth? (ssLeft y l) l with
      | some (u, x) => if u = y then x else 0
      | none => 0) = weightEq y l := by
  induction l with
  | nil => rfl
  | cons hd tl ih =>
    obtain ⟨u, x⟩ := hd
    obtain ⟨hlt, hs'⟩ := sorted_cons.mp hs
    by_cases hu : u < y
    · rw [ssLeft, if_pos hu, Nat.add_comm, weightEq, if_neg hu.ne, zero_add]
      exact ih hs'
    · rw [ssLeft, if_neg hu, weightEq,
        weightEq_eq_zero_of_all_gt y tl fun p hp => (not_lt.mp hu).trans_lt (hlt p hp), add_zero]
      rfl

/-- **C03-T2**: pmf is the normalised weight of the observations equal to y. -/
theorem pmf_support (a b y : E) (obs : List (E × α)) :
    pmf (support ⊥ ⊤ a b obs) y = weightEq y obs / total obs := by
  have h := ssLeft_spec y _ (sorted_support (α := α) a b obs)
  rw [weightEq_support] at h
  unfold pmf
  rw [total_support, ← h]
  cases nth? (ssLeft y (support ⊥ ⊤ a b obs)) (support ⊥ ⊤ a b obs) with
  | none => exact (zero_div _).symm
  | some p => simp only [ite_div, zero_div]

/-- direct recursion equal to `firstReach q (cumN supp)` -/
def reach (q tot : α) : α → List (E × α) → Option E
  | _, [] => none
  | acc, (u, x) :: rest => if q ≤ (acc + x) / tot then some u else reach q tot (acc + x) rest

theorem reach_cons_pos {q tot acc x : α} {u : E} {rest : List (E × α)} (h : q ≤ (acc + x) / tot) :
    reach q tot acc ((u, x) :: rest) = some u := if_pos h

theorem reach_cons_neg {q tot acc x : α} {u : E} {rest : List (E × α)} (h : ¬ q ≤ (acc + x) / tot) :
    reach q tot acc ((u, x) :: rest) = reach q tot (acc + x) rest := if_neg h

theorem firstReach_cumAux (q tot acc : α) (l : List (E × α)) :
    firstReach q ((cumAux acc l).map (fun p => (p.1, p.2 / tot))) = reach q tot acc l := by
  induction l generalizing acc with
  | nil => rfl
  | cons hd tl ih =>
    obtain ⟨u, x⟩ := hd
    simp only [cumAux, List.map_cons, firstReach, reach, ih]

/-- `hacc`: the level `q` is not reached before this sub-list. -/
theorem reach_le_iff (q tot : α) (htot : 0 < tot) (y : E) (acc : α) (l : List (E × α))
    (hs : Sorted l) (hn : NonNeg l) (hacc : acc / tot < q) :
    (∃ u, reach q tot acc l = some u ∧ u ≤ y) ↔ q ≤ (acc + weightLE y l) / tot := by
  induction l generalizing acc with
  | nil =>
    rw [weightLE, add_zero]
    exact iff_of_false (fun ⟨_, h, _⟩ => by cases h) (not_le.mpr hacc)
  | cons hd tl ih =>
    obtain ⟨u, x⟩ := hd
    obtain ⟨hlt, hs'⟩ := sorted_cons.mp hs
    obtain ⟨hx, hn'⟩ := nonNeg_cons.mp hn
    by_cases huy : u ≤ y
    · rw [weightLE, if_pos huy, ← add_assoc]
      by_cases hq : q ≤ (acc + x) / tot
      · rw [reach_cons_pos hq]
        exact iff_of_true ⟨u, rfl, huy⟩ (hq.trans (div_le_div_of_nonneg_right
          (le_add_of_nonneg_right (weightLE_nonneg y tl hn')) htot.le))
      · rw [reach_cons_neg hq, ih (acc + x) hs' hn' (not_le.mp hq)]
    · -- an atom above `y` and everything behind it carry no weight `≤ y`; nothing `≤ y` is reached from here on
      have hz : weightLE y tl = 0 :=
        weightLE_eq_zero_of_all_gt y tl fun p hp => (not_le.mp huy).trans (hlt p hp)
      rw [weightLE, if_neg huy, zero_add, hz, add_zero]
      refine iff_of_false (fun ⟨u', h, hu'⟩ => ?_) (not_le.mpr hacc)
      by_cases hq : q ≤ (acc + x) / tot
      · rw [reach_cons_pos hq] at h
        cases h
        exact huy hu'
      · rw [reach_cons_neg hq] at h
        exact hq (by simpa only [hz, add_zero] using (ih (acc + x) hs' hn' (not_le.mp hq)).mp ⟨u', h, hu'⟩)

/-- a level `≤` the last cumulative level is reached, at the last atom at the latest (there `acc + x = acc + total`);
hence `l ≠ []` -/
theorem reach_isSome_of_le_total (q tot : α) (acc : α) (l : List (E × α))
    (hl : l ≠ []) (h : q ≤ (acc + total l) / tot) : ∃ u, reach q tot acc l = some u := by
  induction l generalizing acc with
  | nil => exact absurd rfl hl
  | cons hd tl ih =>
    obtain ⟨u, x⟩ := hd
    by_cases hq : q ≤ (acc + x) / tot
    · exact ⟨u, reach_cons_pos hq⟩
    · rw [reach_cons_neg hq]
      cases tl with
      | nil => rw [total, total, add_zero] at h; exact absurd h hq
      | cons hd' tl' => exact ih (acc + x) (List.cons_ne_nil _ _) (by rwa [total, ← add_assoc] at h)

/-- `maximum(·, a)` around the atom found by `argmax` (the first atom if the mask is all-False) -/
theorem ppf_eq_max (a : E) (supp : List (E × α)) (q : α) :
    ppf a supp q = max a (match firstReach q (cumN supp) with
      | some u => u
      | none => match supp with
        | [] => a
        | (u, _) :: _ => u) := by
  unfold ppf
  simp only
  split_ifs with h
  · exact (max_eq_left h.le).symm
  · exact (max_eq_right (not_lt.mp h)).symm

/-- **C03-T4 (Galois law)**: for the padded support of any observation list with non-negative
weights and positive total weight, any lower bound `a`, any level `0 < q ≤ 1` and any `y ≥ a`:
`ppf q ≤ y ↔ q ≤ cdf y`. -/
theorem ppf_le_iff (a b y : E) (obs : List (E × α)) (hn : NonNeg obs) (htot : 0 < total obs)
    (q : α) (hq0 : 0 < q) (hq1 : q ≤ 1) (hay : a ≤ y) :
    ppf a (support ⊥ ⊤ a b obs) q ≤ y ↔ q ≤ cdf (support ⊥ ⊤ a b obs) y := by
  have htot' : 0 < total (support ⊥ ⊤ a b obs) := (total_support a b obs).symm ▸ htot
  obtain ⟨tl, he⟩ := support_head (α := α) a b obs
  obtain ⟨u, hu⟩ := reach_isSome_of_le_total q (total (support ⊥ ⊤ a b obs)) 0 (support ⊥ ⊤ a b obs)
    (he ▸ List.cons_ne_nil _ _) (by rw [zero_add, div_self htot'.ne']; exact hq1)
  have key := reach_le_iff q _ htot' y 0 _ (sorted_support a b obs) (nonNeg_support a b obs hn)
    (by rw [zero_div]; exact hq0)
  rw [hu, zero_add, weightLE_support, total_support] at key
  rw [ppf_eq_max, max_le_iff, and_iff_right hay, cdf_support, ← key]
  rw [cumN, cum, firstReach_cumAux, hu]
  exact ⟨fun h => ⟨u, rfl, h⟩, fun ⟨_, h', hu'⟩ => Option.some.inj h' ▸ hu'⟩

#print axioms cdf_support
#print axioms pmf_support
#print axioms ppf_le_iff
end Opda.Emp

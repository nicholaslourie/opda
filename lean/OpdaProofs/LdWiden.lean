import OpdaProofs.BandCor
import OpdaProofs.BetaHdV
import OpdaProofs.Small
import Mathlib.Algebra.Order.Floor.Ring
import Mathlib.Logic.Function.Basic
import Mathlib.Data.List.GetD
import Mathlib.Tactic
/-!
C02: "raising the confidence (same seed) never narrows the band" for the two `ld` methods.

`_ld_band_weights(n, confidence, kind, generator)` simulates the statistics `ts` (they depend on `n`, `kind` and the
generator state only — with the same seed they are the *same* array for every confidence), takes
`critical_value = np.quantile(ts, confidence)`, and the level tables are

    lo = clip([0] ++ [ℓ_k(critical_value) : k = 1..n]),   hi = clip([u_k(critical_value) : k = 1..n] ++ [1])

`(ℓ_k(v), u_k(v)) = interval(k, n+1−k, v)` the equal-tailed / highest-density interval of coverage `v` of Beta(k, n+1−k).
The clause therefore reduces to three monotonicity facts: the quantile of a fixed sample is non-decreasing in the level
(numpy's default "linear" rule); end points moving outwards move the tables outwards entry by entry (and level-wise
widening of the tables is widening of the band cdfs at every `t`); the intervals are nested in the coverage
(equal-tailed: for any non-decreasing quantile function, and the Beta quantile function is one; highest density: the
interval is the level set `{x | hdcov x ≤ v}`, which grows with `v`).  They are combined in `Props/C02.lean`, first for
arbitrary end-point functions, then for the two methods.
-/
namespace Opda.LdWiden
open Set Opda.Emp Opda.Band Opda.BetaCheck Opda.LdStat Opda.BetaHdV

section quantile
variable {α : Type} [Field α] [LinearOrder α] [IsStrictOrderedRing α] [FloorRing α]

def interp (f : ℕ → α) (h : α) : α := f ⌊h⌋₊ + (h - (⌊h⌋₊ : α)) * (f (⌊h⌋₊ + 1) - f ⌊h⌋₊)

theorem interp_bounds (f : ℕ → α) (hf : Monotone f) {h : α} (h0 : 0 ≤ h) :
    f ⌊h⌋₊ ≤ interp f h ∧ interp f h ≤ f (⌊h⌋₊ + 1) := by
  -- `interp f h = f j + θ·d` with `d = f (j+1) − f j ≥ 0` and `θ = h − j ∈ [0,1]`
  rw [interp, mul_comm]
  exact Small.lerp_mem (hf (Nat.le_succ _)) (sub_nonneg.2 (Nat.floor_le h0)) (sub_le_iff_le_add'.2 (Nat.lt_floor_add_one h).le)

theorem interp_mono (f : ℕ → α) (hf : Monotone f) {h h' : α} (h0 : 0 ≤ h) (hh : h ≤ h') :
    interp f h ≤ interp f h' := by
  rcases (Nat.floor_le_floor hh).eq_or_lt with e | lt
  · unfold interp
    rw [← e]
    exact (add_le_add_iff_left _).2 (mul_le_mul_of_nonneg_right (sub_le_sub_right hh _)
      (sub_nonneg.2 (hf (Nat.le_succ _))))
  · exact (interp_bounds f hf h0).2.trans ((hf lt).trans (interp_bounds f hf (h0.trans hh)).1)

/-- the linear rule at the virtual index `h`: `s[j] + (h − j)(s[min(j+1, N−1)] − s[j])`, `j = ⌊h⌋`; it is the body of
`npQuantile`, and the proofs unfold the two together -/
def npQuantileAt (s : List α) (h : α) : α :=
  s.getD ⌊h⌋₊ 0 + (h - (⌊h⌋₊ : α)) * (s.getD (min (⌊h⌋₊ + 1) (s.length - 1)) 0 - s.getD ⌊h⌋₊ 0)

/-- **numpy's default `np.quantile(s, c)`** (`method="linear"`, the documented rule) for a *sorted* non-empty sample `s`
of length `N` and `c ∈ [0,1]`: virtual index `h = (N−1)c`, `j = ⌊h⌋`, value `s[j] + (h − j)(s[min(j+1,N−1)] − s[j])`.
(numpy sorts/partitions its argument first; `s` here is the sorted array.  That numpy computes this rule stays
compared by the harness.) -/
def npQuantile (s : List α) (c : α) : α := npQuantileAt s (((s.length : α) - 1) * c)

def clampIdx (s : List α) (i : ℕ) : α := s.getD (min i (s.length - 1)) 0

omit [IsStrictOrderedRing α] [FloorRing α] in
theorem clampIdx_mono (s : List α) (hs : s.Pairwise (· ≤ ·)) (hne : s ≠ []) : Monotone (clampIdx s) := by
  intro i k hik
  have hN : 0 < s.length := List.length_pos_iff.mpr hne
  have hi : min i (s.length - 1) < s.length := by omega
  have hk : min k (s.length - 1) < s.length := by omega
  show s.getD (min i (s.length - 1)) 0 ≤ s.getD (min k (s.length - 1)) 0
  rw [List.getD_eq_getElem _ _ hi, List.getD_eq_getElem _ _ hk]
  exact hs.rel_get_of_le (a := ⟨_, hi⟩) (b := ⟨_, hk⟩) (min_le_min_right _ hik)

theorem npQuantile_eq_interp (s : List α) (hne : s ≠ []) {c : α} (hc1 : c ≤ 1) :
    npQuantile s c = interp (clampIdx s) (((s.length - 1 : ℕ) : α) * c) := by
  -- for `c ≤ 1` the index `j = ⌊(N−1)c⌋` is at most `N−1`: reading `s[j]` needs no clamping, only `j+1` is ever clamped
  have hj : ⌊((s.length - 1 : ℕ) : α) * c⌋₊ ≤ s.length - 1 :=
    Nat.floor_le_of_le (mul_le_of_le_one_right (Nat.cast_nonneg _) hc1)
  unfold npQuantile npQuantileAt interp clampIdx
  rw [← Nat.cast_pred (List.length_pos_iff.mpr hne), min_eq_left hj]

theorem npQuantile_mono (s : List α) (hs : s.Pairwise (· ≤ ·)) (hne : s ≠ []) {c c' : α}
    (hc0 : 0 ≤ c) (hcc : c ≤ c') (hc1 : c' ≤ 1) : npQuantile s c ≤ npQuantile s c' := by
  rw [npQuantile_eq_interp s hne (hcc.trans hc1), npQuantile_eq_interp s hne hc1]
  exact interp_mono _ (clampIdx_mono s hs hne) (mul_nonneg (Nat.cast_nonneg _) hc0)
    (mul_le_mul_of_nonneg_left hcc (Nat.cast_nonneg _))

theorem npQuantile_zero (s : List α) : npQuantile s 0 = s.getD 0 0 := by
  simp only [npQuantile, npQuantileAt, mul_zero, Nat.floor_zero, Nat.cast_zero, sub_self, zero_mul, add_zero]

theorem npQuantile_one (s : List α) (hne : s ≠ []) : npQuantile s 1 = s.getD (s.length - 1) 0 := by
  rw [npQuantile, npQuantileAt, mul_one, ← Nat.cast_pred (List.length_pos_iff.mpr hne), Nat.floor_natCast, sub_self,
    zero_mul, add_zero]

theorem npQuantile_mem (s : List α) (hs : s.Pairwise (· ≤ ·)) (hne : s ≠ []) {c : α} (hc0 : 0 ≤ c) (hc1 : c ≤ 1) :
    s.getD 0 0 ≤ npQuantile s c ∧ npQuantile s c ≤ s.getD (s.length - 1) 0 := by
  constructor
  · rw [← npQuantile_zero s]; exact npQuantile_mono s hs hne le_rfl hc0 hc1
  · rw [← npQuantile_one s hne]; exact npQuantile_mono s hs hne hc0 hc1 le_rfl

theorem npQuantile_mem_of_forall (s : List α) (hs : s.Pairwise (· ≤ ·)) (hne : s ≠ []) {lo hi : α}
    (hb : ∀ x ∈ s, lo ≤ x ∧ x ≤ hi) {c : α} (hc0 : 0 ≤ c) (hc1 : c ≤ 1) :
    lo ≤ npQuantile s c ∧ npQuantile s c ≤ hi := by
  have hN : 0 < s.length := List.length_pos_iff.mpr hne
  obtain ⟨h1, h2⟩ := npQuantile_mem s hs hne hc0 hc1
  rw [List.getD_eq_getElem _ _ hN] at h1
  rw [List.getD_eq_getElem _ _ (show s.length - 1 < s.length by omega)] at h2
  exact ⟨(hb _ (List.getElem_mem _)).1.trans h1, h2.trans (hb _ (List.getElem_mem _)).2⟩

end quantile

section band
variable {α : Type} [Field α] [LinearOrder α] [IsStrictOrderedRing α]

/-- `clip([0] ++ [ℓ_k(v) : k = 1..n], 0, 1)` (`clip 0 = 0`): the lower table of `_ld_band_weights`, `ℓ_k(v)` the lower
end point of `interval(k, n+1−k, v)` -/
def ldLo (l : ℕ → α → α) (n : ℕ) (v : α) : List α :=
  (List.range (n + 1)).map fun k : ℕ => if k = 0 then 0 else clip01 (l k v)

/-- `clip([u_k(v) : k = 1..n] ++ [1], 0, 1)` (`clip 1 = 1`): the upper table, index `k` holds `u_{k+1}(v)` -/
def ldHi (u : ℕ → α → α) (n : ℕ) (v : α) : List α :=
  (List.range (n + 1)).map fun k : ℕ => if k = n then 1 else clip01 (u (k + 1) v)

omit [IsStrictOrderedRing α] in
theorem ldLo_length (l : ℕ → α → α) (n : ℕ) (v : α) : (ldLo l n v).length = n + 1 := by simp [ldLo]
omit [IsStrictOrderedRing α] in
theorem ldHi_length (u : ℕ → α → α) (n : ℕ) (v : α) : (ldHi u n v).length = n + 1 := by simp [ldHi]

theorem ldLo_anti (l : ℕ → α → α) (n : ℕ) {v v' : α} (h : ∀ k, 1 ≤ k → k ≤ n → l k v' ≤ l k v) (i : ℕ) :
    (ldLo l n v').getD i 0 ≤ (ldLo l n v).getD i 0 :=
  getD_map_range_le (fun k hk => by
    split_ifs with h0
    exacts [le_rfl, clip01_mono (h k (Nat.pos_of_ne_zero h0) (Nat.lt_succ_iff.mp hk))]) i

theorem ldHi_mono (u : ℕ → α → α) (n : ℕ) {v v' : α} (h : ∀ k, 1 ≤ k → k ≤ n → u k v ≤ u k v') (i : ℕ) :
    (ldHi u n v).getD i 0 ≤ (ldHi u n v').getD i 0 :=
  getD_map_range_le (fun k hk => by
    split_ifs with hn
    exacts [le_rfl, clip01_mono (h (k + 1) k.succ_pos (by omega))]) i

end band

section et
variable {α β : Type} [Field α] [LinearOrder α] [IsStrictOrderedRing α] [Preorder β]

/-- the equal-tailed interval of coverage `c` is `[Q((1−c)/2), Q((1+c)/2)]` -/
theorem et_nested_of_monotoneOn (Q : α → β) (hQ : MonotoneOn Q (Icc 0 1)) {c c' : α}
    (hc0 : 0 ≤ c) (hcc : c ≤ c') (hc1 : c' ≤ 1) :
    Q ((1 - c') / 2) ≤ Q ((1 - c) / 2) ∧ Q ((1 + c) / 2) ≤ Q ((1 + c') / 2) := by
  -- the tail levels form a chain in `[0,1]`; membership in `[0,1]` is transitivity
  obtain ⟨a0, a1, a2, a3, a4⟩ := Opda.Small.tail_chain hc0 hcc hc1
  exact ⟨hQ ⟨a0, a1.trans (a2.trans (a3.trans a4))⟩ ⟨a0.trans a1, a2.trans (a3.trans a4)⟩ a1,
    hQ ⟨(a0.trans a1).trans a2, a3.trans a4⟩ ⟨((a0.trans a1).trans a2).trans a3, a4⟩ a3⟩

theorem et_nested_of_monotone (Q : α → β) (hQ : Monotone Q) {c c' : α} (hcc : c ≤ c') :
    Q ((1 - c') / 2) ≤ Q ((1 - c) / 2) ∧ Q ((1 + c) / 2) ≤ Q ((1 + c') / 2) :=
  ⟨hQ (Opda.Small.half_mono (sub_le_sub_left hcc 1)), hQ (Opda.Small.half_mono ((add_le_add_iff_left 1).2 hcc))⟩

end et

/-- the Beta(a,b) quantile function on `[0,1]` (the `beta.ppf` of the specification): the inverse of the distribution
function `G a b` there -/
noncomputable def betaQuantile (a b : ℕ) (p : ℝ) : ℝ := Function.invFunOn (G a b) (Icc 0 1) p

theorem betaQuantile_spec (a b : ℕ) (ha : 0 < a) (hb : 0 < b) {p : ℝ} (hp : p ∈ Icc (0 : ℝ) 1) :
    betaQuantile a b p ∈ Icc (0 : ℝ) 1 ∧ G a b (betaQuantile a b p) = p := by
  have hsurj : p ∈ G a b '' Icc 0 1 := by
    have h := intermediate_value_Icc (zero_le_one' ℝ) (continuous_G a b).continuousOn
    rw [G_zero a b ha, G_one a b hb] at h
    exact h hp
  exact ⟨Function.invFunOn_mem hsurj, Function.invFunOn_eq hsurj⟩

theorem betaQuantile_unique (a b : ℕ) (ha : 0 < a) (hb : 0 < b) {p x : ℝ} (hx : x ∈ Icc (0 : ℝ) 1) (h : G a b x = p) :
    betaQuantile a b p = x := by
  have hp : p ∈ Icc (0 : ℝ) 1 := by
    rw [← h, ← G_zero a b ha, ← G_one a b hb]
    exact ⟨(G_strictMonoOn a b ha hb).monotoneOn (left_mem_Icc.2 zero_le_one) hx hx.1,
      (G_strictMonoOn a b ha hb).monotoneOn hx (right_mem_Icc.2 zero_le_one) hx.2⟩
  obtain ⟨hm, he⟩ := betaQuantile_spec a b ha hb hp
  exact (G_strictMonoOn a b ha hb).injOn hm hx (he.trans h.symm)

theorem betaQuantile_monotoneOn (a b : ℕ) (ha : 0 < a) (hb : 0 < b) : MonotoneOn (betaQuantile a b) (Icc 0 1) := by
  intro p hp p' hp' hpp
  obtain ⟨hm, he⟩ := betaQuantile_spec a b ha hb hp
  obtain ⟨hm', he'⟩ := betaQuantile_spec a b ha hb hp'
  exact ((G_strictMonoOn a b ha hb).le_iff_le hm hm').mp (by rw [he, he']; exact hpp)

/-- lower end point of `beta_equal_tailed_interval(a, b, v) = (ppf((1−v)/2), ppf((1+v)/2))` -/
noncomputable def etLoEnd (a b : ℕ) (v : ℝ) : ℝ := betaQuantile a b ((1 - v) / 2)
/-- upper end point of `beta_equal_tailed_interval(a, b, v)` -/
noncomputable def etHiEnd (a b : ℕ) (v : ℝ) : ℝ := betaQuantile a b ((1 + v) / 2)

theorem etLoEnd_antitoneOn (a b : ℕ) (ha : 0 < a) (hb : 0 < b) : AntitoneOn (etLoEnd a b) (Icc 0 1) :=
  fun _ hv _ hv' h => (et_nested_of_monotoneOn _ (betaQuantile_monotoneOn a b ha hb) hv.1 h hv'.2).1

theorem etHiEnd_monotoneOn (a b : ℕ) (ha : 0 < a) (hb : 0 < b) : MonotoneOn (etHiEnd a b) (Icc 0 1) :=
  fun _ hv _ hv' h => (et_nested_of_monotoneOn _ (betaQuantile_monotoneOn a b ha hb) hv.1 h hv'.2).2

/- Highest-density intervals are nested in the coverage:
`hdcov a b x` (OpdaProofs/BetaHdV) is the coverage of the smallest highest-density interval of Beta(a,b) containing `x`: the
mass of the density level set through `x`.  The highest-density interval of coverage `v` is the set of points whose
smallest HD interval has coverage at most `v`, `{x ∈ [0,1] | hdcov x ≤ v}`; it grows with `v` by definition, and by the
V shape of `hdcov` (strictly decreasing up to the mode, strictly increasing after it) it is order-connected with the two
points where `hdcov = v` as its least and greatest elements. -/

def hdSet (a b : ℕ) (v : ℝ) : Set ℝ := {x | x ∈ Icc (0 : ℝ) 1 ∧ hdcov a b x ≤ v}

/-- lower end point of `beta_highest_density_interval(a, b, v)` -/
noncomputable def hdLoEnd (a b : ℕ) (v : ℝ) : ℝ := sInf (hdSet a b v)
/-- upper end point of `beta_highest_density_interval(a, b, v)` -/
noncomputable def hdHiEnd (a b : ℕ) (v : ℝ) : ℝ := sSup (hdSet a b v)

theorem hdSet_mono (a b : ℕ) {v v' : ℝ} (h : v ≤ v') : hdSet a b v ⊆ hdSet a b v' := fun _ hx => ⟨hx.1, hx.2.trans h⟩

/-- the mode has coverage 0, so it belongs to every region of coverage `v ≥ 0` -/
theorem mode_mem_hdSet (a b : ℕ) (hab : 2 < a + b) (ha : 0 < a) (hb : 0 < b) {v : ℝ} (hv : 0 ≤ v) :
    mode (a - 1) (b - 1) ∈ hdSet a b v := by
  have hm : mode (a - 1) (b - 1) ∈ Icc (0 : ℝ) 1 := ⟨mode_nonneg _ _, mode_le_one _ _⟩
  refine ⟨hm, ?_⟩
  rw [hdcov_of_mem a b hm, hdcovRaw_mode a b hab ha hb]
  exact hv

theorem hdLoEnd_antitoneOn (a b : ℕ) (hab : 2 < a + b) (ha : 0 < a) (hb : 0 < b) : AntitoneOn (hdLoEnd a b) (Icc 0 1) :=
  fun _ hv _ _ h => csInf_le_csInf ⟨0, fun _ hx => hx.1.1⟩ ⟨_, mode_mem_hdSet a b hab ha hb hv.1⟩ (hdSet_mono a b h)

theorem hdHiEnd_monotoneOn (a b : ℕ) (hab : 2 < a + b) (ha : 0 < a) (hb : 0 < b) : MonotoneOn (hdHiEnd a b) (Icc 0 1) :=
  fun _ hv _ _ h => csSup_le_csSup ⟨1, fun _ hx => hx.1.2⟩ ⟨_, mode_mem_hdSet a b hab ha hb hv.1⟩ (hdSet_mono a b h)

/-- the point left of the mode where the coverage function takes the value `v`: what the code's root search looks for -/
theorem hdLoEnd_eq_of_hdcov_eq (a b : ℕ) (hab : 2 < a + b) (ha : 0 < a) (hb : 0 < b) {v x : ℝ}
    (hx : x ∈ Icc 0 (mode (a - 1) (b - 1))) (h : hdcov a b x = v) : hdLoEnd a b v = x := by
  have hm1 := mode_le_one (a - 1) (b - 1)
  refine IsLeast.csInf_eq ⟨⟨⟨hx.1, hx.2.trans hm1⟩, h.le⟩, fun t ht => le_of_not_gt fun hlt => ?_⟩
  -- a point of the region left of `x` would have coverage above `hdcov x = v`
  exact ((hdcov_strictAntiOn a b hab ha hb ⟨ht.1.1, hlt.le.trans hx.2⟩ hx hlt).trans_le ht.2).ne h

theorem hdHiEnd_eq_of_hdcov_eq (a b : ℕ) (hab : 2 < a + b) (ha : 0 < a) (hb : 0 < b) {v y : ℝ}
    (hy : y ∈ Icc (mode (a - 1) (b - 1)) 1) (h : hdcov a b y = v) : hdHiEnd a b v = y := by
  have hm0 := mode_nonneg (a - 1) (b - 1)
  refine IsGreatest.csSup_eq ⟨⟨⟨hm0.trans hy.1, hy.2⟩, h.le⟩, fun t ht => le_of_not_gt fun hlt => ?_⟩
  exact ((hdcov_strictMonoOn a b hab ha hb hy ⟨hy.1.trans hlt.le, ht.1.2⟩ hlt).trans_le ht.2).ne h

end Opda.LdWiden

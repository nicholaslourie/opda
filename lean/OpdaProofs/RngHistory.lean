import OpdaProofs.Rng

/-!
The C14 facts about the state machine.  Comparison with a fresh process, irrelevance of `n_jobs` and
reproducibility after `set_seed` all go through one normal form: a call that the ld cache does not serve
behaves as the same call on the specification machine in `fresh s` (`observe_eq_spec_fresh`).  Freshness of
returned arrays is a simulation (`SameOffReturned`, one step of it being `step_heap`); isolation of explicit
generators is a frame property of `step`.  Last, the two-call witnesses of finding F1.
-/
namespace Opda.Rng

/-- the cell from which the ld cache serves the call: `none` for every call that is not an ld-band call, on the
specification machine, and on a miss.  `step` branches on exactly this lookup. -/
def ldServed (P : Policy) (s : State) (o : Op) : Option Handle :=
  if P = .asCode then (ldKey s o).bind (assoc · s.cache) else none

theorem ldServed_fresh (P : Policy) (s : State) (o : Op) : ldServed P (fresh s) o = none := by
  unfold ldServed; split
  · cases ldKey (fresh s) o <;> rfl
  · rfl

/-- a memoised ld key was logged by the call that memoised it (`Inv.ldLogged`) -/
theorem ldServed_of_noRepeat {s : State} (hs : Inv s) (P : Policy) {o : Op} (h : repeatsLdKey s o = false) :
    ldServed P s o = none := by
  unfold ldServed; split
  · fun_cases ldKey s o
    · exact assoc_eq_none_of_forall fun c hm =>
        absurd (hs.ldLogged _ _ _ _ _ c hm).1 (by simpa [repeatsLdKey, ldKey] using h)
    · rfl
  · rfl

theorem step_eq_spec (P : Policy) (cost : Cost) (s : State) (o : Op) (h : ldServed P s o = none) :
    step P cost s o = step .spec cost s o := by
  cases o with
  | bands m n conf ys gen njobs =>
    cases m with
    | det dm => rfl
    | ld kind =>
      -- `ldServed` on an ld-band call is, by unfolding, the lookup `step` branches on
      have h' : (if P = Policy.asCode then
        assoc (Key.ld n conf kind (gen.getD s.global) (njobs.getD s.cpu)) s.cache else none) = none := h
      simp only [step, h']; rfl
  | _ => rfl

/-- the specification machine is history independent: the only cache it reads is that of the dkw/ks tables,
and a cell of it holds what a miss computes (`Inv.detCell`) -/
theorem observe_spec_fresh (cost : Cost) {s : State} (hs : Inv s) (o : Op) :
    observe .spec cost s o = observe .spec cost (fresh s) o := by
  unfold observe
  -- on every leaf of `step` the two sides are the same term, but for two
  fun_cases step .spec cost s o <;> simp +zetaDelta only [step, fresh, assoc, nth?, *] <;> try rfl
  -- a dkw/ks hit: the cell holds the table a miss computes
  · rename_i h hc
    simp only [hs.detCell _ _ _ h (mem_of_assoc hc)]; rfl
  -- an ld hit: the specification machine has none
  · rename_i hc
    simp only [reduceCtorEq, ↓reduceIte] at hc

theorem observe_eq_spec_fresh (P : Policy) (cost : Cost) {s : State} (hs : Inv s) (o : Op)
    (h : ldServed P s o = none) : observe P cost s o = observe .spec cost (fresh s) o := by
  rw [← observe_spec_fresh cost hs o, observe, observe, step_eq_spec P cost s o h]

theorem observe_fresh (P : Policy) (cost : Cost) {s : State} (hs : Inv s) (o : Op) (h : ldServed P s o = none) :
    observe P cost s o = observe P cost (fresh s) o :=
  (observe_eq_spec_fresh P cost hs o h).trans
    (observe_eq_spec_fresh P cost (inv_fresh hs) o (ldServed_fresh P s o)).symm

/-- the specification machine does not look at `n_jobs`: it enters nothing but the key logged and memoised -/
theorem njobs_spec (cost : Cost) (s : State) (kind : Kind) (n conf ys : Nat) (gen : Option GenRef)
    (j j' : Option Nat) :
    observe .spec cost s (.bands (.ld kind) n conf ys gen j) = observe .spec cost s (.bands (.ld kind) n conf ys gen j') := by
  simp only [observe, step]
  cases assoc (gen.getD s.global) s.gens <;> rfl

/-- no call of the history repeats the ld key of an earlier call (keys evaluated as the history runs) -/
def noRepeat (P : Policy) (cost : Cost) (s : State) : List Op → Bool
  | [] => true
  | o :: os => !repeatsLdKey s o && noRepeat P cost (step P cost s o).1 os

theorem run_code_eq_spec (cost : Cost) {s : State} (hs : Inv s) (h : List Op)
    (hn : noRepeat .asCode cost s h = true) :
    exec .asCode cost s h = exec .spec cost s h ∧ outs .asCode cost s h = outs .spec cost s h := by
  induction h generalizing s with
  | nil => exact ⟨rfl, rfl⟩
  | cons o os ih =>
    simp only [noRepeat, Bool.and_eq_true, Bool.not_eq_true'] at hn
    obtain ⟨a, b⟩ := ih (hs.step .asCode cost o) hn.2
    simp only [exec, outs, ← step_eq_spec .asCode cost s o (ldServed_of_noRepeat hs _ hn.1), a, b, and_self]

def State.globalGen (s : State) : Option GenState := assoc s.global s.gens

def Op.usesGlobal : Op → Bool
  | .sample _ _ _ none => true
  | .bands _ _ _ _ none _ => true
  | .fit _ none => true
  | _ => false

/-- nothing is memoised for the object `set_seed` has just created: memoised keys name older objects -/
theorem ldServed_after_setSeed {s : State} (hs : Inv s) (P : Policy) (cost : Cost) (z : Nat) {o : Op}
    (ho : o.usesGlobal = true) : ldServed P (step P cost s (.setSeed z)).1 o = none := by
  unfold ldServed; split
  · cases o with
    | bands m n conf ys gen njobs =>
      cases gen with
      | some r => simp [Op.usesGlobal] at ho
      | none =>
        cases m with
        | det dm => rfl
        | ld kind =>
          exact assoc_eq_none_of_forall fun c hm => Nat.lt_irrefl _ (hs.ldLogged _ _ _ s.nextRef _ c hm).2
    | _ => rfl
  · rfl

/-- in a process without cache, the value of a default-generator call and the state it leaves the global generator
in depend on the global generator's state alone; stated through `globalGen` because the two processes may name
the global object differently -/
theorem fresh_globalCall (cost : Cost) {s t : State} (hg : s.globalGen = t.globalGen) (o : Op)
    (ho : o.usesGlobal = true) :
    (step .spec cost (fresh s) o).2.value = (step .spec cost (fresh t) o).2.value
      ∧ (step .spec cost (fresh s) o).1.globalGen = (step .spec cost (fresh t) o).1.globalGen := by
  unfold State.globalGen at hg ⊢
  generalize hx : assoc s.global s.gens = x at hg
  have hy := hg.symm
  cases o with
  | sample _ _ _ gen | fit _ gen =>
    cases gen with
    | some r => simp [Op.usesGlobal] at ho
    | none =>
      simp only [step, fresh, Option.getD_none, hx, hy]
      cases x with
      | none => exact ⟨rfl, hx.trans hg⟩
      | some g => exact ⟨rfl, by simp only [ret, assoc_update_self, hx, hy]⟩
  | bands m n conf ys gen njobs =>
    cases gen with
    | some r => simp [Op.usesGlobal] at ho
    | none =>
      cases m with
      | det dm =>
        simp only [step, fresh, Option.getD_none, hx, hy, assoc]
        cases x <;> exact ⟨rfl, hx.trans hg⟩
      | ld kind =>
        simp only [step, fresh, Option.getD_none, hx, hy]
        cases x with
        | none => exact ⟨rfl, hx.trans hg⟩
        | some g => exact ⟨rfl, by simp only [reduceCtorEq, ↓reduceIte, ret, memo, assoc_update_self, hx, hy]⟩
  | _ => simp [Op.usesGlobal] at ho

/-- after `set_seed z` a default-generator call returns what it returns in a new process whose global generator
was seeded with `z`, and leaves the global generator where it leaves it there: `set_seed` rebinds the global
name to a new object in state `(z, 0)`.  The legacy state and cpu count `0 0` of the reference process are
arbitrary: neither enters the value or the global generator's state. -/
theorem setSeed_call (P : Policy) (cost : Cost) {s : State} (hs : Inv s) (z : Nat) (o : Op)
    (ho : o.usesGlobal = true) :
    (step P cost (step P cost s (.setSeed z)).1 o).2.value = (step .spec cost (init z 0 0) o).2.value
      ∧ (step P cost (step P cost s (.setSeed z)).1 o).1.globalGen
          = (step .spec cost (init z 0 0) o).1.globalGen := by
  have e := observe_eq_spec_fresh P cost (hs.step P cost _) o (ldServed_after_setSeed hs P cost z ho)
  have f := fresh_globalCall cost (s := (step P cost s (.setSeed z)).1) (t := init z 0 0) (assoc_cons_self _ _ _) o ho
  exact ⟨(congrArg Prod.fst e).trans f.1,
    (congrArg (fun p : Value × RngView => assoc p.2.global p.2.gens) e).trans f.2⟩

/-- what a call given an explicit generator other than the global object leaves alone, `s` before and `t`
after: the global binding, the state of the object that was global in `s`, numpy's legacy state, the cpu count -/
def Untouched (s t : State) : Prop :=
  t.global = s.global ∧ assoc s.global t.gens = assoc s.global s.gens ∧ t.legacy = s.legacy ∧ t.cpu = s.cpu

theorem Untouched.trans {s t u : State} (a : Untouched s t) (b : Untouched t u) : Untouched s u := by
  obtain ⟨a1, a2, a3, a4⟩ := a
  obtain ⟨b1, b2, b3, b4⟩ := b
  rw [a1] at b2
  exact ⟨b1.trans a1, b2.trans a2, b3.trans a3, b4.trans a4⟩

/-- numpy's legacy global state (`State.legacy`) and the cpu count are read-only for every operation -/
theorem legacy_step (P : Policy) (cost : Cost) (s : State) (o : Op) :
    (step P cost s o).1.legacy = s.legacy ∧ (step P cost s o).1.cpu = s.cpu := by
  fun_cases step P cost s o <;> exact ⟨rfl, rfl⟩

theorem legacy_exec (P : Policy) (cost : Cost) (s : State) (h : List Op) :
    (exec P cost s h).legacy = s.legacy ∧ (exec P cost s h).cpu = s.cpu := by
  induction h generalizing s with
  | nil => exact ⟨rfl, rfl⟩
  | cons o os ih =>
    obtain ⟨a, b⟩ := legacy_step P cost s o
    obtain ⟨c, d⟩ := ih (step P cost s o).1
    exact ⟨c.trans a, d.trans b⟩

theorem untouched_step (P : Policy) (cost : Cost) {s : State} (hs : Inv s) (o : Op)
    (ho : o.avoids s.global = true) : Untouched s (step P cost s o).1 := by
  -- the only generator a call moves is the one it is given
  have moved : ∀ (gen : Option GenRef) (g' : GenState),
      (match gen with | some r => r != s.global | none => false) = true →
      assoc s.global (update (gen.getD s.global) g' s.gens) = assoc s.global s.gens := by
    intro gen g' h
    cases gen with
    | none => cases h
    | some r => exact assoc_update_ne _ _ (by rintro rfl; simp at h)
  fun_cases step P cost s o
  -- `set_seed` rebinds the global name: excluded by `ho`
  all_goals try (cases ho; done)
  -- most leaves touch no generator
  all_goals try exact ⟨rfl, rfl, rfl, rfl⟩
  -- a draw moves the generator given
  all_goals try exact ⟨rfl, moved _ _ ho, rfl, rfl⟩
  -- `default_rng` makes a new object
  exact ⟨rfl, assoc_cons_ne _ _ (Nat.ne_of_lt hs.globalBound), rfl, rfl⟩

theorem untouched_exec (P : Policy) (cost : Cost) {s : State} (hs : Inv s) (h : List Op)
    (hh : ∀ o ∈ h, o.avoids s.global = true) : Untouched s (exec P cost s h) := by
  induction h generalizing s with
  | nil => exact ⟨rfl, rfl, rfl, rfl⟩
  | cons o os ih =>
    have a := untouched_step P cost hs o (hh o List.mem_cons_self)
    exact a.trans (ih (hs.step P cost o) fun o' ho' => a.1 ▸ hh o' (List.mem_cons_of_mem _ ho'))

/-- two heaps that hold the same outside the handles `R` -/
def AgreeOff (R : List Handle) (H H' : List (Handle × Value)) : Prop := ∀ h, h ∉ R → assoc h H = assoc h H'

theorem AgreeOff.cons {R H H'} (a : AgreeOff R H H') (x : Handle) (v : Value) :
    AgreeOff R ((x, v) :: H) ((x, v) :: H') := by
  intro h hn
  simp only [assoc]
  split
  · rfl
  · exact a h hn

theorem AgreeOff.mono {R H H'} (a : AgreeOff R H H') (r : Handle) : AgreeOff (r :: R) H H' :=
  fun h hn => a h fun hm => hn (List.mem_cons_of_mem _ hm)

theorem AgreeOff.update {R H H'} (a : AgreeOff R H H') {x : Handle} (hx : x ∈ R) (v v' : Value) :
    AgreeOff R (update x v H) (update x v' H') := by
  intro h hn
  have hne : h ≠ x := fun e => hn (e ▸ hx)
  rw [assoc_update_ne _ _ hne, assoc_update_ne _ _ hne]
  exact a h hn

/-- two states that differ at most in the contents of arrays handed to callers: what overwriting such arrays
can lead to (`sameOffReturned_mutate`).  The field `heap` is `AgreeOff s.returned s.heap t.heap` written out. -/
structure SameOffReturned (s t : State) : Prop where
  view : s.view = t.view
  cache : s.cache = t.cache
  returned : s.returned = t.returned
  nextHandle : s.nextHandle = t.nextHandle
  ldCalls : s.ldCalls = t.ldCalls
  heap : ∀ h, h ∉ s.returned → assoc h s.heap = assoc h t.heap

private theorem state_ext {s t : State} (h1 : s.view = t.view) (h2 : s.cache = t.cache)
    (h3 : s.returned = t.returned) (h4 : s.nextHandle = t.nextHandle) (h5 : s.ldCalls = t.ldCalls)
    (h6 : s.heap = t.heap) : s = t := by
  cases s; cases t
  simp only [State.view, RngView.mk.injEq] at h1
  simp_all

theorem SameOffReturned.eq_heap {s t : State} (h : SameOffReturned s t) : t = { s with heap := t.heap } :=
  state_ext h.view.symm h.cache.symm h.returned.symm h.nextHandle.symm h.ldCalls.symm rfl

theorem sameOffReturned_mutate (P : Policy) (cost : Cost) (s : State) (i v : Nat) :
    SameOffReturned s (step P cost s (.mutateReturned i v)).1 := by
  simp only [step]
  cases hi : nth? i s.returned with
  | none => exact ⟨rfl, rfl, rfl, rfl, rfl, fun _ _ => rfl⟩
  | some h' =>
    exact ⟨rfl, rfl, rfl, rfl, rfl, fun h hn => (assoc_update_ne _ _ fun e : h = h' => hn (e ▸ mem_of_nth? hi)).symm⟩

/-- replacing the heap by one that holds the same outside the returned arrays changes a step in the heap only, and
the two heaps again hold the same outside the returned arrays -/
theorem step_heap {s : State} (hs : Inv s) (P : Policy) (cost : Cost) (o : Op) {H : List (Handle × Value)}
    (hh : AgreeOff s.returned s.heap H) :
    ∃ H', step P cost { s with heap := H } o = ({ (step P cost s o).1 with heap := H' }, (step P cost s o).2)
      ∧ AgreeOff (step P cost s o).1.returned (step P cost s o).1.heap H' := by
  -- a cache hit reads a cache cell, which is not a returned array
  have cell : ∀ {key h}, assoc key s.cache = some h → assoc h s.heap = assoc h H :=
    fun hk => hh _ (hs.cacheFresh _ _ (mem_of_assoc hk)).2
  cases o with
  | setSeed z | newGen z => exact ⟨_, rfl, hh⟩
  | setGlobal r => simp only [step]; cases assoc r s.gens <;> exact ⟨_, rfl, hh⟩
  | mutateReturned i v =>
    simp only [step]
    cases hi : nth? i s.returned with
    | none => exact ⟨_, rfl, hh⟩
    | some h' => exact ⟨_, rfl, hh.update (mem_of_nth? hi) _ _⟩
  | sample _ _ _ gen | fit _ gen =>
    simp only [step]
    cases assoc (gen.getD s.global) s.gens with
    | none => exact ⟨_, rfl, hh⟩
    | some g => exact ⟨_, rfl, (hh.cons _ _).mono _⟩
  | bands m n conf ys gen njobs =>
    cases m with
    | det dm =>
      simp only [step]
      cases assoc (gen.getD s.global) s.gens with
      | none => exact ⟨_, rfl, hh⟩
      | some g =>
        cases hc : assoc (Key.det dm n conf) s.cache with
        | some h => simp only [cell hc]; exact ⟨_, rfl, (hh.cons _ _).mono _⟩
        | none => exact ⟨_, rfl, ((hh.cons _ _).cons _ _).mono _⟩
    | ld kind =>
      simp only [step]
      cases assoc (gen.getD s.global) s.gens with
      | none => exact ⟨_, rfl, hh⟩
      | some g =>
        cases hc : (if P = Policy.asCode then
            assoc (Key.ld n conf kind (gen.getD s.global) (njobs.getD s.cpu)) s.cache else none) with
        | some h =>
          have hk : assoc (Key.ld n conf kind (gen.getD s.global) (njobs.getD s.cpu)) s.cache = some h := by
            split at hc
            · exact hc
            · cases hc
          simp only [cell hk]; exact ⟨_, rfl, (hh.cons _ _).mono _⟩
        | none => exact ⟨_, rfl, ((hh.cons _ _).cons _ _).mono _⟩

theorem SameOffReturned.step {s t : State} (hst : SameOffReturned s t) (hs : Inv s) (P : Policy) (cost : Cost)
    (o : Op) : (Rng.step P cost s o).2 = (Rng.step P cost t o).2
      ∧ SameOffReturned (Rng.step P cost s o).1 (Rng.step P cost t o).1 := by
  obtain ⟨H', e, a⟩ := step_heap hs P cost o hst.heap
  rw [hst.eq_heap, e]
  exact ⟨rfl, ⟨rfl, rfl, rfl, rfl, rfl, a⟩⟩

theorem SameOffReturned.outs {s t : State} (hst : SameOffReturned s t) (hs : Inv s) (P : Policy) (cost : Cost)
    (h : List Op) : outs P cost s h = outs P cost t h ∧ (exec P cost s h).view = (exec P cost t h).view := by
  induction h generalizing s t with
  | nil => exact ⟨rfl, hst.view⟩
  | cons o os ih =>
    obtain ⟨e, hst'⟩ := hst.step hs P cost o
    obtain ⟨e1, e2⟩ := ih hst' (hs.step P cost o)
    exact ⟨by simp only [Rng.outs, e, e1], e2⟩

/-- `g = default_rng(0)`; `confidence_bands(ys, c, generator=g, method="ld_equal_tailed", n_jobs=1)` -/
def f1History : List Op := [.newGen 0, .bands (.ld .equalTailed) 3 0 0 (some 1) (some 1)]
def f1Call : Op := .bands (.ld .equalTailed) 3 0 0 (some 1) (some 1)
/-- `set_seed(0)`; `confidence_bands(ys, c, method="ld_equal_tailed")` on the global generator -/
def f1HistoryGlobal : List Op := [.setSeed 0, .bands (.ld .equalTailed) 3 0 0 none none]
def f1CallGlobal : Op := .bands (.ld .equalTailed) 3 0 0 none none

/-- the process after the first call.  The start `init 12345 0 16` is arbitrary, but `history_independent_full_is_false`
(Props/C14) instantiates the property at these literals, and its `decide` compares with this state -/
def f1State : State := exec .asCode nominalCost (init 12345 0 16) f1History
def f1StateGlobal : State := exec .asCode nominalCost (init 12345 0 16) f1HistoryGlobal

end Opda.Rng

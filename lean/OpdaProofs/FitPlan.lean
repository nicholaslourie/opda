import OpdaModel.FitPlan
import Mathlib.Tactic

/-!
Lemmas about the bookkeeping model of `fit` (`OpdaModel/FitPlan.lean`): packing/unpacking (C10-T4), the
search box and the initial population (C10-T5, C11-T3, C11-T5).  A parameter vector is a concatenation of
four *slots* (`packG_eq`), each present iff its parameter is free; box membership is proved slot by slot
(`forall₂_slot`, `forall₂_slot_mk`), while reading back (`unpack_pack`) and the length / map / zip facts of `packG`
are the table of the 16 fixed/free patterns, each row by `rfl`.
-/
namespace Opda.Fit

section pack
variable {β : Type}

theorem packG_length (fr : Free) (a b c o : β) : (packG fr a b c o).length = nBounds fr := by
  rcases fr with ⟨_ | _, _ | _, _ | _, _ | _⟩ <;> rfl

theorem packG_map {γ : Type} (f : β → γ) (fr : Free) (a b c o : β) :
    (packG fr a b c o).map f = packG fr (f a) (f b) (f c) (f o) := by
  rcases fr with ⟨_ | _, _ | _, _ | _, _ | _⟩ <;> rfl

theorem packG_zip {γ : Type} (fr : Free) (a b c o : β) (a' b' c' o' : γ) :
    (packG fr a b c o).zip (packG fr a' b' c' o') = packG fr (a, a') (b, b') (c, c') (o, o') := by
  rcases fr with ⟨_ | _, _ | _, _ | _, _ | _⟩ <;> rfl

/-- **C10-T4 (read-back).** For each of the 16 fixed/free patterns, the coordinate that was written as
parameter `p` is read back as `p`; a fixed parameter is read back as its fixed value. -/
theorem unpack_pack (fr : Free) (fixed p : Params β) :
    unpack fr fixed (packG fr p.a p.b p.c p.o)
      = some ⟨if fr.a then p.a else fixed.a, if fr.b then p.b else fixed.b,
              if fr.c then p.c else fixed.c, if fr.o then p.o else fixed.o⟩ := by
  rcases fr with ⟨_ | _, _ | _, _ | _, _ | _⟩ <;> rfl

/-- `packG` with the appends associated to the right, one slot per parameter -/
theorem packG_eq (fr : Free) (a b c o : β) :
    packG fr a b c o = (if fr.a then [a] else []) ++ ((if fr.b then [b] else []) ++
      ((if fr.c then [c] else []) ++ ((if fr.o then [o] else []) ++ []))) := by
  simp only [packG, List.append_assoc, List.append_nil]

/-- a vector constrained by a list of boxes that starts with a slot: peel the slot off (`d` stands in for the
coordinate of a fixed parameter) -/
theorem forall₂_slot (P : β → Box β → Prop) (d : β) (f : Bool) (X : Box β) (rest : List (Box β)) (θ : List β)
    (h : List.Forall₂ P θ ((if f then [X] else []) ++ rest)) :
    ∃ v θ', θ = (if f then [v] else []) ++ θ' ∧ (if f then P v X else v = d) ∧ List.Forall₂ P θ' rest := by
  cases f with
  | false => exact ⟨d, θ, rfl, rfl, h⟩
  | true =>
    cases h with
    | cons h1 h2 => exact ⟨_, _, rfl, h1, h2⟩

theorem slot_read {P : β → Box β → Prop} {f : Bool} {v d : β} {X : Box β} (h : if f then P v X else v = d) :
    if f then P (if f then v else d) X else (if f then v else d) = d := by
  cases f
  exacts [rfl, h]

end pack

section box
variable {α : Type} [LinearOrder α]

theorem pymax_eq (x y : α) : pymax x y = max x y := (max_def_lt x y).symm

theorem pymin_eq (x y : α) : pymin x y = min x y := (min_def_lt y x).symm.trans (min_comm y x)

/-- **C10-T5 (candidates).** `np.clip` with `lo ≤ hi` lands inside `[lo, hi]`. -/
theorem clip_mem (x lo hi : α) (h : lo ≤ hi) : lo ≤ clip x lo hi ∧ clip x lo hi ≤ hi := by
  unfold clip; rw [pymin_eq, pymax_eq]
  exact ⟨le_min (le_max_right _ _) h, min_le_right _ _⟩

def InBox (x : α) (B : Box α) : Prop := B.lo ≤ x ∧ x ≤ B.hi

theorem clip_inBox (x : α) (B : Box α) (h : B.lo ≤ B.hi) : InBox (clip x B.lo B.hi) B := clip_mem x B.lo B.hi h

/-- **C10-T5 (box ⊆ constraint).** The box of a parameter is inside its constraint: a fixed value is
kept exactly and an interval is only ever shrunk. -/
theorem boxOf_subset (dLo dHi : α) (c : Cons α) :
    match c with
    | .absent => boxOf dLo dHi c = ⟨dLo, dHi⟩
    | .fixed v => boxOf dLo dHi c = ⟨v, v⟩
    | .interval lo hi => lo ≤ (boxOf dLo dHi c).lo ∧ (boxOf dLo dHi c).hi ≤ hi ∧
        dLo ≤ (boxOf dLo dHi c).lo ∧ (boxOf dLo dHi c).hi ≤ dHi := by
  cases c with
  | absent => rfl
  | fixed v => rfl
  | interval lo hi =>
    simp only [boxOf, pymax_eq, pymin_eq]
    exact ⟨le_max_right _ _, min_le_right _ _, le_max_left _ _, min_le_left _ _⟩

end box

theorem cBox_fixed (c : Int) : cBox (.fixed c) = ⟨c, c⟩ := rfl

/-- every candidate shape lies in the box of `c`: `[max(1, c_lo), min(10, c_hi)]`, or `[v, v]` when `c` is fixed to `v` -/
theorem csList_mem (cC : Cons Int) (c : Int) (hc : c ∈ csList cC) :
    (cBox cC).lo ≤ c ∧ c ≤ (cBox cC).hi := by
  cases cC with
  | fixed v => simp [csList] at hc; subst hc; simp [cBox_fixed]
  | absent | interval =>
    simp only [csList, nCs, List.mem_map, List.mem_range] at hc
    obtain ⟨i, hi, rfl⟩ := hc
    simp only [Int.ofNat_eq_natCast]
    constructor <;> omega

theorem csList_length (cC : Cons Int) : (csList cC).length = nCs cC := by
  cases cC <;> simp [csList, nCs]

/-- `boxOf_subset` for the box of `c`, whose default is `[C_MIN, C_MAX] = [1, 10]` -/
theorem cBox_within (cC : Cons Int) :
    match cC with
    | .fixed v => cBox cC = ⟨v, v⟩
    | .absent => cBox cC = ⟨1, 10⟩
    | .interval lo hi => lo ≤ (cBox cC).lo ∧ (cBox cC).hi ≤ hi ∧ 1 ≤ (cBox cC).lo ∧ (cBox cC).hi ≤ 10 := by
  cases cC with
  | fixed v => rfl
  | absent => rfl
  | interval lo hi => exact boxOf_subset cMin cMax (.interval lo hi)

theorem b2n_pos (c : Bool) : 0 < b2n c ↔ c = true := by cases c <;> decide

section pop
variable {β : Type}

theorem length_flatMap_const {γ δ : Type} (l : List γ) (f : γ → List δ) (k : Nat) (h : ∀ x ∈ l, (f x).length = k) :
    (l.flatMap f).length = l.length * k := by
  rw [List.length_flatMap, List.map_congr_left h, List.map_const', List.sum_replicate, smul_eq_mul]

theorem choices_length (free : Bool) (vals : List β) :
    (choices free vals).length = if free then vals.length else 1 := by
  cases free <;> simp [choices]

theorem candProduct_length (fr : Free) (as bs cs os : List β) :
    (candProduct fr as bs cs os).length
      = (if fr.a then as.length else 1) * (if fr.b then bs.length else 1)
        * (if fr.c then cs.length else 1) * (if fr.o then os.length else 1) := by
  unfold candProduct
  rw [length_flatMap_const _ _ ((if fr.b then bs.length else 1) * (if fr.c then cs.length else 1)
      * (if fr.o then os.length else 1))]
  · rw [choices_length]; ring
  · intro xa _
    rw [length_flatMap_const _ _ ((if fr.c then cs.length else 1) * (if fr.o then os.length else 1))]
    · rw [choices_length]; ring
    · intro xb _
      rw [length_flatMap_const _ _ (if fr.o then os.length else 1)]
      · rw [choices_length]
      · intro xc _
        rw [List.length_map, choices_length]

/-- one slot of a candidate: a choice for a free parameter satisfies what all its estimates satisfy -/
theorem forall₂_slot_mk (P : β → Box β → Prop) {f : Bool} {vals : List β} {X : Box β} (hv : ∀ v ∈ vals, P v X)
    {x : List β} (hx : x ∈ choices f vals) {θ : List β} {R : List (Box β)} (h : List.Forall₂ P θ R) :
    List.Forall₂ P (x ++ θ) ((if f then [X] else []) ++ R) := by
  cases f with
  | false =>
    obtain rfl : x = [] := by simpa [choices] using hx
    exact h
  | true =>
    obtain ⟨v, hv', rfl⟩ : ∃ v ∈ vals, [v] = x := by simpa [choices] using hx
    exact .cons (hv v hv') h

/-- every member of the product lists its coordinates in the order of `bounds`, each taken from the
estimate list of its own parameter -/
theorem candProduct_forall₂ (P : β → Box β → Prop) (fr : Free) (as bs cs os : List β) (A B C O : Box β)
    (ha : ∀ v ∈ as, P v A) (hb : ∀ v ∈ bs, P v B) (hc : ∀ v ∈ cs, P v C) (ho : ∀ v ∈ os, P v O)
    (x : List β) (hx : x ∈ candProduct fr as bs cs os) : List.Forall₂ P x (boundsList fr A B C O) := by
  simp only [candProduct, List.mem_flatMap, List.mem_map] at hx
  obtain ⟨xa, hxa, xb, hxb, xc, hxc, xo, hxo, rfl⟩ := hx
  rw [boundsList, packG_eq, ← List.append_nil xo]
  exact forall₂_slot_mk P ha hxa (forall₂_slot_mk P hb hxb (forall₂_slot_mk P hc hxc (forall₂_slot_mk P ho hxo .nil)))

end pop

section popα
variable {α : Type} [LinearOrder α]

theorem dsQuad_length (fr : Free) : (dsQuad fr).length = if fr.a && fr.b then 3 else 9 := by
  unfold dsQuad; split_ifs <;> rfl

theorem dsNoisy_length (fr : Free) : (dsNoisy fr).length = if fr.a && fr.b then 2 else 4 := by
  unfold dsNoisy; split_ifs <;> rfl

theorem ssNoisy_length (fr : Free) : (ssNoisy fr).length = if fr.a || fr.b || fr.o then 7 else 1 := by
  unfold ssNoisy; split_ifs <;> rfl

/-- the grids of `a` and `b`: `m` offsets each when both are fitted (`m · m` candidates), `k` for the one
that is fitted otherwise -/
theorem grid_length (a b : Bool) (m k : Nat) :
    (if a then (if a && b then m else k) else 1) * (if b then (if a && b then m else k) else 1)
      = if a || b then (if a && b then m * m else k) else 1 := by
  cases a <;> cases b <;> simp

theorem initPopNoisyRaw_length (fr : Free) (ofInt : Int → α) (rawA rawB : Int → Nat → Int → α)
    (rawO : Int → Nat → α) (aB bB oB : Box α) (cs : List Int) :
    (initPopNoisyRaw fr ofInt rawA rawB rawO aB bB oB cs).length
      = cs.length * ((if fr.a || fr.b || fr.o then 7 else 1) * (if fr.a || fr.b then 4 else 1)) :=
  length_flatMap_const _ _ _ fun c _ => by
    rw [length_flatMap_const _ _ (if fr.a || fr.b then 4 else 1), ssNoisy_length]
    intro s _
    rw [candProduct_length, List.length_map, List.length_map, dsNoisy_length, grid_length]
    -- `2 · 2 = 4`: four candidates per `(c, s)` whether one or both of `a`, `b` are fitted; the `c` and the `o`
    -- slot hold one value each
    simp only [List.length_cons, List.length_nil, ite_self, Nat.mul_one, Nat.reduceMul, Nat.zero_add]

end popα

end Opda.Fit

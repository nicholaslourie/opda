import OpdaModel.Num
import Mathlib.Analysis.SpecialFunctions.Pow.Real
import Mathlib.Analysis.SpecialFunctions.Gamma.Basic
import Mathlib.Probability.Distributions.Gaussian.Real
import Mathlib.Tactic

/-! The instance `Num ℝ` at which every polymorphic model is read in the proofs (`pow = Real.rpow`, the normal
functions from Mathlib's `gaussianReal`, comparisons decided classically), and the `simp` lemmas that turn the
projections the noiseless class reads (`eq`, `n`, `pow`, `exp`, `logGamma`) into the real operations. -/
namespace Opda
open Real MeasureTheory ProbabilityTheory

noncomputable def Phi (x : ℝ) : ℝ := ((gaussianReal 0 1) (Set.Iic x)).toReal

noncomputable def phiStd (x : ℝ) : ℝ := gaussianPDFReal 0 1 x

/-- standard normal quantile function (generalised inverse of `Phi`) -/
noncomputable def PhiInv (q : ℝ) : ℝ := sInf {x | q ≤ Phi x}

noncomputable instance : Num ℝ where
  ofNat := fun k => (k : ℝ)
  decLt := Classical.decRel _
  decLe := Classical.decRel _
  eq := fun a b => @decide (a = b) (Classical.dec _)
  pow := Real.rpow
  exp := Real.exp
  log := Real.log
  -- Python's `lgamma`/`gammaln` is `log|Γ|`; this agrees with it for `x > 0`, where alone the models read it
  -- (`averageTuningCurve` at `n + 1`, `(c+2)/c`, `n + (c+2)/c` with `n > 0`, `c ≥ 1`)
  logGamma := fun x => Real.log (Real.Gamma x)
  normalCdf := Phi
  normalPdf := phiStd
  normalPpf := PhiInv

@[simp] theorem num_eq (a b : ℝ) : (Num.eq a b = true) ↔ a = b := by
  show @decide (a = b) (Classical.dec _) = true ↔ a = b
  simp
theorem num_eq_false {a b : ℝ} (h : a ≠ b) : Num.eq a b = false :=
  Bool.eq_false_iff.mpr fun h' => h ((num_eq a b).mp h')
@[simp] theorem num_n (k : ℕ) : (Num.n k : ℝ) = (k : ℝ) := rfl
@[simp] theorem num_pow (x y : ℝ) : Num.pow x y = x ^ y := rfl
@[simp] theorem num_exp (x : ℝ) : Num.exp x = Real.exp x := rfl
@[simp] theorem num_logGamma (x : ℝ) : Num.logGamma x = Real.log (Real.Gamma x) := rfl

end Opda

import OpdaProofs.OrderStatBeta
import Mathlib.Analysis.Calculus.Deriv.MeanValue
import Mathlib.MeasureTheory.Order.Lattice
import Mathlib.Tactic
/-!
# C01 (ld methods): the simulated statistic has a continuous distribution function

The ld band methods simulate `T(u) = max_{i<n} cov_i(U₍ᵢ₎)` for `n` independent uniforms `u`, `cov_i` the coverage
function of the Beta(i+1, n−i) law of the `i`-th order statistic.  The Beta-law theorems of C01 take as hypothesis that
the law of `T` has a continuous distribution function.  Here: for `c i` whose level sets inside `[0,1]` are Lebesgue-null (in
particular finite), `P[T = t] = 0` for every `t`, hence the law `unifPi n |>.map (ldStat c)` has a continuous distribution
function.  The equal-tailed coverage function `x ↦ 2·|1/2 − G x|` has finite level sets in `[0,1]` when `G` is strictly
increasing there, and the Beta(a,b) distribution function `G a b` (the binomial tail polynomial of C15) is strictly
increasing on `[0,1]` (`G_strictMonoOn`, in `BetaCheck.lean`), so the equal-tailed statistic of the code meets the hypothesis
unconditionally.  A coverage function strictly decreasing up to a point and strictly increasing after it has finite level
sets too: the form `BetaHdV.lean` applies to the highest-density coverage functions.
-/
namespace Opda.LdStat
open MeasureTheory Set Opda.RectProbP Opda.OrderStatBeta Opda.BetaCheck Opda.BetaCdf

variable {n : ℕ}

noncomputable def ldStat [NeZero n] (c : Fin n → ℝ → ℝ) (u : Fin n → ℝ) : ℝ :=
  Finset.univ.sup' Finset.univ_nonempty fun i => c i (orderStat u i)

theorem ldStat_le_iff [NeZero n] (c : Fin n → ℝ → ℝ) (u : Fin n → ℝ) (t : ℝ) :
    ldStat c u ≤ t ↔ ∀ i, c i (orderStat u i) ≤ t :=
  (Finset.sup'_le_iff _ _).trans ⟨fun h i => h i (Finset.mem_univ i), fun h i _ => h i⟩

theorem exists_eq_ldStat [NeZero n] (c : Fin n → ℝ → ℝ) (u : Fin n → ℝ) :
    ∃ i, c i (orderStat u i) = ldStat c u := by
  obtain ⟨i, _, hi⟩ := Finset.exists_mem_eq_sup' Finset.univ_nonempty (fun i => c i (orderStat u i))
  exact ⟨i, hi.symm⟩

theorem measurable_ldStat [NeZero n] {c : Fin n → ℝ → ℝ} (hc : ∀ i, Measurable (c i)) :
    Measurable (ldStat c) := by
  have h := Finset.measurable_sup' (s := (Finset.univ : Finset (Fin n))) Finset.univ_nonempty
    (f := fun i (u : Fin n → ℝ) => c i (orderStat u i)) fun i _ => (hc i).comp (measurable_orderStat i)
  convert h using 1
  ext u
  simp [ldStat, Finset.sup'_apply]

theorem ldStat_no_atoms_of_null [NeZero n] (c : Fin n → ℝ → ℝ)
    (hlev : ∀ i t, (volume : Measure ℝ) {x | x ∈ Icc (0:ℝ) 1 ∧ c i x = t} = 0) (t : ℝ) :
    unifPi n {u | ldStat c u = t} = 0 := by
  -- the bad set of a single coordinate: outside `[0,1]`, or on a level set of some `c i`
  set S : Set ℝ := (Icc (0:ℝ) 1)ᶜ ∪ ⋃ i : Fin n, {x | x ∈ Icc (0:ℝ) 1 ∧ c i x = t} with hSdef
  have hS : ((volume : Measure ℝ).restrict (Icc 0 1)) S = 0 := by
    rw [hSdef]
    refine measure_union_null ?_ ?_
    · rw [Measure.restrict_apply measurableSet_Icc.compl, compl_inter_self, measure_empty]
    · refine (measure_iUnion_null_iff).mpr fun i => ?_
      exact Measure.absolutelyContinuous_of_le Measure.restrict_le_self (hlev i t)
  have hsub : {u : Fin n → ℝ | ldStat c u = t} ⊆ ⋃ j : Fin n, {u | u j ∈ S} := by
    intro u hu
    obtain ⟨i, hi⟩ := exists_eq_ldStat c u
    rw [mem_iUnion]
    refine ⟨Tuple.sort u i, ?_⟩
    by_cases hmem : u (Tuple.sort u i) ∈ Icc (0:ℝ) 1
    · -- the order statistic `u₍ᵢ₎` is the coordinate `u (Tuple.sort u i)`, by the definition of `orderStat`
      exact Or.inr (mem_iUnion.mpr ⟨i, hmem, hi.trans hu⟩)
    · exact Or.inl hmem
  refine measure_mono_null hsub ?_
  -- a coordinate of `n` independent uniforms avoids every set that is null for the uniform law on `[0,1]`
  exact (measure_iUnion_null_iff).mpr fun j =>
    Measure.pi_eval_preimage_null (fun _ : Fin n => (volume : Measure ℝ).restrict (Icc 0 1)) hS

noncomputable def ldLaw [NeZero n] (c : Fin n → ℝ → ℝ) : Measure ℝ := (unifPi n).map (ldStat c)

theorem ldLaw_isProbabilityMeasure [NeZero n] {c : Fin n → ℝ → ℝ} (hc : ∀ i, Measurable (c i)) :
    IsProbabilityMeasure (ldLaw c) :=
  Measure.isProbabilityMeasure_map (measurable_ldStat hc).aemeasurable

theorem ldLaw_cdf [NeZero n] {c : Fin n → ℝ → ℝ} (hc : ∀ i, Measurable (c i)) (t : ℝ) :
    cdfOf (ldLaw c) t = (unifPi n {u | ∀ i, c i (orderStat u i) ≤ t}).toReal := by
  unfold cdfOf ldLaw
  rw [Measure.map_apply (measurable_ldStat hc) measurableSet_Iic]
  congr 2
  ext u
  simp only [mem_preimage, mem_Iic, mem_ofPred_eq]
  exact ldStat_le_iff c u t

theorem ldLaw_cdf_continuous_of_null [NeZero n] {c : Fin n → ℝ → ℝ} (hc : ∀ i, Measurable (c i))
    (hlev : ∀ i t, (volume : Measure ℝ) {x | x ∈ Icc (0:ℝ) 1 ∧ c i x = t} = 0) :
    Continuous (cdfOf (ldLaw c)) :=
  haveI := ldLaw_isProbabilityMeasure hc
  @cdfOf_continuous_of_nullSingleton (ldLaw c) _ ⟨fun t => by
    rw [ldLaw, Measure.map_apply (measurable_ldStat hc) (measurableSet_singleton t)]
    exact ldStat_no_atoms_of_null c hlev t⟩

theorem ldLaw_cdf_continuous [NeZero n] {c : Fin n → ℝ → ℝ} (hc : ∀ i, Measurable (c i))
    (hlev : ∀ i t, {x | x ∈ Icc (0:ℝ) 1 ∧ c i x = t}.Finite) :
    Continuous (cdfOf (ldLaw c)) :=
  ldLaw_cdf_continuous_of_null hc fun i t => (hlev i t).measure_zero _

/-- coverage of the smallest equal-tailed interval containing `x`: `2·|1/2 − G x|` (C15 `equal_tailed`) -/
noncomputable def etCov (G : ℝ → ℝ) (x : ℝ) : ℝ := 2 * |1 / 2 - G x|

theorem measurable_etCov {G : ℝ → ℝ} (hG : Measurable G) : Measurable (etCov G) := by
  unfold etCov; fun_prop

/-- `G` is injective there and takes one of the two values `1/2 ∓ t/2`.  The continuity of the statistic only needs the
finiteness (`etCov_level_finite`); the bound `≤ 2` is what `Props/C01.equal_tailed_level_sets` states. -/
theorem etCov_level_card_le_two {G : ℝ → ℝ} (hG : StrictMonoOn G (Icc 0 1)) (t : ℝ) :
    {x | x ∈ Icc (0:ℝ) 1 ∧ etCov G x = t}.encard ≤ 2 := by
  have himg : G '' {x | x ∈ Icc (0:ℝ) 1 ∧ etCov G x = t} ⊆ {1 / 2 - t / 2, 1 / 2 + t / 2} := by
    rintro _ ⟨x, ⟨_, hx⟩, rfl⟩
    rcases eq_or_eq_neg_of_abs_eq
      (show |1 / 2 - G x| = t / 2 by rw [← hx, etCov, mul_div_cancel_left₀ _ two_ne_zero]) with h | h
    · exact Or.inl (show G x = 1 / 2 - t / 2 by rw [← h]; ring)
    · exact Or.inr (show G x = 1 / 2 + t / 2 by rw [← neg_eq_iff_eq_neg.2 h]; ring)
  rw [← (hG.injOn.mono fun x hx => hx.1).encard_image]
  exact (Set.encard_le_encard himg).trans
    ((Set.encard_insert_le _ _).trans (by rw [Set.encard_singleton]; norm_num))

theorem etCov_level_finite {G : ℝ → ℝ} (hG : StrictMonoOn G (Icc 0 1)) (t : ℝ) :
    {x | x ∈ Icc (0:ℝ) 1 ∧ etCov G x = t}.Finite :=
  Set.finite_of_encard_le_coe (etCov_level_card_le_two hG t)

theorem etLaw_cdf_continuous [NeZero n] {G : Fin n → ℝ → ℝ} (hm : ∀ i, Measurable (G i))
    (hG : ∀ i, StrictMonoOn (G i) (Icc 0 1)) :
    Continuous (cdfOf (ldLaw fun i => etCov (G i))) :=
  ldLaw_cdf_continuous (fun i => measurable_etCov (hm i)) fun i t => etCov_level_finite (hG i) t

/-- the equal-tailed coverage function of the `i`-th (0-based) of `n` order statistics: `2·|1/2 − G(i+1, n−i)(x)|`,
`G(i+1, n−i)` the Beta(i+1, n−i) distribution function -/
noncomputable def betaEtCov (n : ℕ) (i : Fin n) : ℝ → ℝ := etCov (G (i.val + 1) (n - i.val))

theorem betaEt_measurable (n : ℕ) (i : Fin n) : Measurable (betaEtCov n i) :=
  measurable_etCov (continuous_G _ _).measurable

theorem betaEt_level_finite (n : ℕ) (i : Fin n) (t : ℝ) : {x | x ∈ Icc (0:ℝ) 1 ∧ betaEtCov n i x = t}.Finite :=
  etCov_level_finite (G_strictMonoOn _ _ (Nat.succ_pos _) (Nat.sub_pos_of_lt i.isLt)) t

/-- **the equal-tailed ld statistic of the code** `max_i 2·|1/2 − BetaCDF(i+1, n−i)(U₍ᵢ₎)|` has a continuous
distribution function, for every `n ≥ 1` -/
theorem betaEt_cdf_continuous (n : ℕ) [NeZero n] : Continuous (cdfOf (ldLaw (betaEtCov n))) :=
  ldLaw_cdf_continuous (betaEt_measurable n) (betaEt_level_finite n)

/-- a function strictly decreasing on `[0,m]` and strictly increasing on `[m,1]` has level sets of at most two points in
`[0,1]`: this is the shape of the equal-tailed coverage function (about the median) and of the highest-density coverage
function (about the mode, C15 `hd_level_set`) -/
theorem vShape_level_finite {c : ℝ → ℝ} {m : ℝ} (hl : StrictAntiOn c (Icc 0 m)) (hr : StrictMonoOn c (Icc m 1)) (t : ℝ) :
    {x | x ∈ Icc (0:ℝ) 1 ∧ c x = t}.Finite := by
  have h1 : {x | x ∈ Icc (0:ℝ) m ∧ c x = t}.Subsingleton := by
    intro x hx y hy
    exact hl.injOn hx.1 hy.1 (hx.2.trans hy.2.symm)
  have h2 : {x | x ∈ Icc m (1:ℝ) ∧ c x = t}.Subsingleton := by
    intro x hx y hy
    exact hr.injOn hx.1 hy.1 (hx.2.trans hy.2.symm)
  refine (h1.finite.union h2.finite).subset ?_
  rintro x ⟨⟨hx0, hx1⟩, hxt⟩
  rcases le_total x m with h | h
  · exact Or.inl ⟨⟨hx0, h⟩, hxt⟩
  · exact Or.inr ⟨⟨h, hx1⟩, hxt⟩

theorem vShapeLaw_cdf_continuous [NeZero n] {c : Fin n → ℝ → ℝ} (hc : ∀ i, Measurable (c i)) (m : Fin n → ℝ)
    (hl : ∀ i, StrictAntiOn (c i) (Icc 0 (m i))) (hr : ∀ i, StrictMonoOn (c i) (Icc (m i) 1)) :
    Continuous (cdfOf (ldLaw c)) :=
  ldLaw_cdf_continuous hc fun i t => vShape_level_finite (hl i) (hr i) t

end Opda.LdStat

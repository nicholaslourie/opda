import OpdaProofs.LdStat
import OpdaProofs.BetaCheck
import Mathlib.Topology.Order.Monotone
import Mathlib.Topology.Order.IntermediateValue
import Mathlib.MeasureTheory.Constructions.BorelSpace.Order
import Mathlib.Tactic
/-!
# C15 / C01: the highest-density coverage function is V-shaped about the mode

For integers `a, b ≥ 1`, not both `1`, write `α = a − 1`, `β = b − 1`, `f = g α β : s ↦ s^α (1−s)^β` (the unnormalised
Beta(a,b) density), `m = α/(α+β)` its mode and `G a b` the Beta(a,b) distribution function (the binomial tail polynomial
of C15).  `f` is *strictly* increasing on `[0,m]` and *strictly* decreasing on `[m,1]` (for `α = 0` resp. `β = 0` the mode
is the end point `0` resp. `1`): `mode`, `g_strictMonoOn`, `g_strictAntiOn` are declared in `HdiBound.lean` (under this namespace), since
`BetaCheck.lean`, which this file imports, already states its certificate bound with `mode`.  The far end of the level set `{f ≥ f x}` is `partnerR α β x = sup {t ∈ [m,1] | f x ≤ f t}` for
`x ≤ m` and `partnerL α β x = inf {t ∈ [0,m] | f x ≤ f t}` for `x ≥ m`; for `α, β ≥ 1` it is the only point across the mode with
the density of `x`.  `hdcovRaw a b x` is the Beta(a,b)-mass of that level set, i.e. (C15 `hd_level_set`, `hdi_shortest`) the
coverage of the smallest highest-density interval containing `x`; `hdcov a b x = hdcovRaw a b (max 0 (min x 1))` is the same
function extended constantly outside `[0,1]` (so that it is a measurable function on `ℝ`).  It is strictly decreasing on
`[0,m]`, strictly increasing on `[m,1]` and `0` at `m`.  `betaHdCov n i = hdcov (i+1) (n−i)` are the coverage functions of
`ld_highest_density`; for `n ≥ 2` the statistic `max_i betaHdCov n i (U₍ᵢ₎)` has a continuous distribution function, and the
driver's exact rational bracket (`beta.hdcov`) contains `hdcov a b x`.
-/
namespace Opda.BetaHdV
open Set Opda.Hdi Opda.BetaCheck Opda.LdStat

def levR (α β : ℕ) (x : ℝ) : Set ℝ := {t | t ∈ Icc (mode α β) 1 ∧ g α β x ≤ g α β t}

def levL (α β : ℕ) (x : ℝ) : Set ℝ := {t | t ∈ Icc 0 (mode α β) ∧ g α β x ≤ g α β t}

/-- right end of the level set `{f ≥ f x}` (meant for `x ≤ m`) -/
noncomputable def partnerR (α β : ℕ) (x : ℝ) : ℝ := sSup (levR α β x)

/-- left end of the level set `{f ≥ f x}` (meant for `x ≥ m`) -/
noncomputable def partnerL (α β : ℕ) (x : ℝ) : ℝ := sInf (levL α β x)

/-! Everything is proved for `x` left of the mode; `s ↦ 1 − s` with the exponents exchanged (`levL_eq`, `partnerL_eq`,
further down `hdcovRaw_reflect`) gives the statements right of the mode. -/

theorem levR_bddAbove (α β : ℕ) (x : ℝ) : BddAbove (levR α β x) := ⟨1, fun _ ht => ht.1.2⟩

theorem mode_mem_levR (α β : ℕ) (hpos : 0 < α + β) {x : ℝ} (hx : x ∈ Icc 0 (mode α β)) : mode α β ∈ levR α β x :=
  ⟨⟨le_rfl, mode_le_one α β⟩, g_mono α β hpos hx ⟨mode_nonneg α β, le_rfl⟩ hx.2⟩

theorem partnerR_isGreatest (α β : ℕ) (hpos : 0 < α + β) {x : ℝ} (hx : x ∈ Icc 0 (mode α β)) :
    IsGreatest (levR α β x) (partnerR α β x) :=
  (isClosed_Icc.inter (isClosed_Ici.preimage (g_continuous α β))).isGreatest_csSup ⟨_, mode_mem_levR α β hpos hx⟩
    (levR_bddAbove α β x)

theorem partnerR_mem (α β : ℕ) (hpos : 0 < α + β) {x : ℝ} (hx : x ∈ Icc 0 (mode α β)) :
    partnerR α β x ∈ levR α β x := (partnerR_isGreatest α β hpos hx).1

theorem levL_eq (α β : ℕ) (hpos : 0 < α + β) (x : ℝ) : levL α β x = (fun t => 1 - t) ⁻¹' levR β α (1 - x) := by
  ext t
  simp only [levL, levR, mem_ofPred_eq, mem_preimage, ← g_reflect, ← one_sub_mode α β hpos, mem_Icc]
  constructor <;> rintro ⟨⟨h1, h2⟩, h3⟩ <;> exact ⟨⟨by linarith, by linarith⟩, h3⟩

theorem partnerL_eq (α β : ℕ) (hpos : 0 < α + β) {x : ℝ} (hx : x ∈ Icc (mode α β) 1) :
    partnerL α β x = 1 - partnerR β α (1 - x) := by
  have hR := partnerR_isGreatest β α (by omega) (refl_mem α β hpos hx)
  refine IsLeast.csInf_eq ⟨?_, fun t ht => ?_⟩
  · rw [levL_eq α β hpos]; simpa using hR.1
  · rw [levL_eq α β hpos] at ht; linarith [hR.2 ht]

theorem partnerL_mem (α β : ℕ) (hpos : 0 < α + β) {x : ℝ} (hx : x ∈ Icc (mode α β) 1) :
    partnerL α β x ∈ levL α β x := by
  rw [partnerL_eq α β hpos hx, levL_eq α β hpos]
  simpa using partnerR_mem β α (by omega) (refl_mem α β hpos hx)

theorem partnerR_anti (α β : ℕ) (hpos : 0 < α + β) {x x' : ℝ} (hx : x ∈ Icc 0 (mode α β))
    (hx' : x' ∈ Icc 0 (mode α β)) (hxx : x ≤ x') : partnerR α β x' ≤ partnerR α β x :=
  csSup_le_csSup (levR_bddAbove α β x) ⟨_, mode_mem_levR α β hpos hx'⟩
    fun _ ht => ⟨ht.1, (g_mono α β hpos hx hx' hxx).trans ht.2⟩

theorem levelSet_left (α β : ℕ) (hpos : 0 < α + β) {x : ℝ} (hx : x ∈ Icc 0 (mode α β)) {s : ℝ} (hs : s ∈ Icc (0:ℝ) 1) :
    g α β x ≤ g α β s ↔ x ≤ s ∧ s ≤ partnerR α β x := by
  have hp := partnerR_isGreatest α β hpos hx
  constructor
  · intro h
    refine ⟨not_lt.1 fun hlt => h.not_gt (g_strictMonoOn α β hpos ⟨hs.1, hlt.le.trans hx.2⟩ hx hlt), ?_⟩
    rcases le_total s (mode α β) with hsm | hms
    · exact hsm.trans hp.1.1.1
    · exact hp.2 ⟨⟨hms, hs.2⟩, h⟩
  · rintro ⟨h1, h2⟩
    exact ge_between (g_mono α β hpos) (g_anti α β hpos) hx.1 hx.2 hp.1.1.1 hp.1.1.2 le_rfl hp.1.2 ⟨h1, h2⟩

theorem levelSet_right (α β : ℕ) (hpos : 0 < α + β) {x : ℝ} (hx : x ∈ Icc (mode α β) 1) {s : ℝ} (hs : s ∈ Icc (0:ℝ) 1) :
    g α β x ≤ g α β s ↔ partnerL α β x ≤ s ∧ s ≤ x := by
  rw [g_reflect α β x, g_reflect α β s, partnerL_eq α β hpos hx,
    levelSet_left β α (by omega) (refl_mem α β hpos hx) ⟨sub_nonneg.2 hs.2, sub_le_self 1 hs.1⟩,
    sub_le_sub_iff_left, sub_le_comm, and_comm]

theorem partnerR_mode (α β : ℕ) (hpos : 0 < α + β) : partnerR α β (mode α β) = mode α β := by
  have hp := partnerR_mem α β hpos ⟨mode_nonneg α β, le_rfl⟩
  by_contra hne
  exact hp.2.not_gt (g_strictAntiOn α β hpos ⟨le_rfl, mode_le_one α β⟩ hp.1 (lt_of_le_of_ne hp.1.1 (Ne.symm hne)))

theorem partnerL_mode (α β : ℕ) (hpos : 0 < α + β) : partnerL α β (mode α β) = mode α β := by
  rw [partnerL_eq α β hpos ⟨le_rfl, mode_le_one α β⟩, one_sub_mode α β hpos, partnerR_mode β α (by omega),
    ← one_sub_mode α β hpos, sub_sub_cancel]

theorem g_one_right (α β : ℕ) (hβ : 0 < β) : g α β 1 = 0 := by
  unfold g; rw [sub_self, zero_pow hβ.ne']; ring

theorem partnerR_zero (α β : ℕ) (hα : 0 < α) : partnerR α β 0 = 1 := by
  have h := partnerR_isGreatest α β (by omega) ⟨le_rfl, mode_nonneg α β⟩
  refine le_antisymm h.1.1.2 (h.2 ⟨⟨mode_le_one α β, le_rfl⟩, ?_⟩)
  rw [g_reflect, sub_zero, g_one_right β α hα]
  exact g_nonneg α β 1 zero_le_one le_rfl

theorem g_partnerR (α β : ℕ) (hβ : 0 < β) {x : ℝ} (hx : x ∈ Icc 0 (mode α β)) :
    g α β (partnerR α β x) = g α β x := by
  have hp := partnerR_isGreatest α β (by omega) hx
  refine le_antisymm (not_lt.1 fun hlt => ?_) hp.1.2
  -- otherwise the density takes the value `f x` again further right, since it vanishes at `1`
  have hmem : g α β x ∈ Icc (g α β 1) (g α β (partnerR α β x)) :=
    ⟨by rw [g_one_right α β hβ]; exact g_nonneg α β x hx.1 (hx.2.trans (mode_le_one α β)), hlt.le⟩
  obtain ⟨s, hs, hsx⟩ := intermediate_value_Icc' hp.1.1.2 (g_continuous α β).continuousOn hmem
  have : s = partnerR α β x := le_antisymm (hp.2 ⟨⟨hp.1.1.1.trans hs.1, hs.2⟩, hsx.ge⟩) hs.1
  rw [this] at hsx
  exact hlt.ne' hsx

theorem g_partnerL (α β : ℕ) (hα : 0 < α) {x : ℝ} (hx : x ∈ Icc (mode α β) 1) :
    g α β (partnerL α β x) = g α β x := by
  have hpos : 0 < α + β := by omega
  rw [partnerL_eq α β hpos hx, g_reflect α β, sub_sub_cancel, g_partnerR β α hα (refl_mem α β hpos hx), ← g_reflect]

theorem partnerR_unique (α β : ℕ) (hβ : 0 < β) {x y : ℝ} (hx : x ∈ Icc 0 (mode α β)) (hy : y ∈ Icc (mode α β) 1)
    (h : g α β y = g α β x) : y = partnerR α β x := by
  have hpos : 0 < α + β := by omega
  exact (g_strictAntiOn α β hpos).injOn hy (partnerR_mem α β hpos hx).1 (h.trans (g_partnerR α β hβ hx).symm)

theorem partnerL_unique (α β : ℕ) (hα : 0 < α) {x y : ℝ} (hx : x ∈ Icc (mode α β) 1) (hy : y ∈ Icc 0 (mode α β))
    (h : g α β y = g α β x) : y = partnerL α β x := by
  have hpos : 0 < α + β := by omega
  exact (g_strictMonoOn α β hpos).injOn hy (partnerL_mem α β hpos hx).1 (h.trans (g_partnerL α β hα hx).symm)

/-- **coverage of the smallest highest-density interval containing `x`** (for `x ∈ [0,1]`): the Beta(a,b)-mass of the level
set `{f ≥ f x}` of the density `f = g (a−1) (b−1)`, which is `[x, partnerR x]` for `x` left of the mode and `[partnerL x, x]`
right of it (`levelSet_left`, `levelSet_right`; C15 `hd_level_set`, `hdi_shortest`) -/
noncomputable def hdcovRaw (a b : ℕ) (x : ℝ) : ℝ :=
  if x ≤ mode (a - 1) (b - 1) then G a b (partnerR (a - 1) (b - 1) x) - G a b x
  else G a b x - G a b (partnerL (a - 1) (b - 1) x)

noncomputable def clamp01 (x : ℝ) : ℝ := max 0 (min x 1)

noncomputable def hdcov (a b : ℕ) (x : ℝ) : ℝ := hdcovRaw a b (clamp01 x)

theorem clamp01_of_mem {x : ℝ} (hx : x ∈ Icc (0:ℝ) 1) : clamp01 x = x := by
  unfold clamp01; rw [min_eq_left hx.2, max_eq_right hx.1]

theorem clamp01_mem (x : ℝ) : clamp01 x ∈ Icc (0:ℝ) 1 :=
  ⟨le_max_left _ _, max_le zero_le_one (min_le_right _ _)⟩

theorem hdcov_of_mem (a b : ℕ) {x : ℝ} (hx : x ∈ Icc (0:ℝ) 1) : hdcov a b x = hdcovRaw a b x := by
  unfold hdcov; rw [clamp01_of_mem hx]

theorem hdcovRaw_left (a b : ℕ) {x : ℝ} (hx : x ≤ mode (a - 1) (b - 1)) :
    hdcovRaw a b x = G a b (partnerR (a - 1) (b - 1) x) - G a b x := if_pos hx

theorem hdcovRaw_right (a b : ℕ) {x : ℝ} (hx : mode (a - 1) (b - 1) < x) :
    hdcovRaw a b x = G a b x - G a b (partnerL (a - 1) (b - 1) x) := if_neg (not_le.mpr hx)

theorem hdcovRaw_mode (a b : ℕ) (hab : 2 < a + b) (ha : 0 < a) (hb : 0 < b) :
    hdcovRaw a b (mode (a - 1) (b - 1)) = 0 := by
  rw [hdcovRaw_left a b le_rfl, partnerR_mode _ _ (by omega), sub_self]

theorem hdcovRaw_right' (a b : ℕ) (hab : 2 < a + b) (ha : 0 < a) (hb : 0 < b) {x : ℝ} (hx : mode (a - 1) (b - 1) ≤ x) :
    hdcovRaw a b x = G a b x - G a b (partnerL (a - 1) (b - 1) x) := by
  rcases hx.lt_or_eq with h | h
  · exact hdcovRaw_right a b h
  · rw [← h, hdcovRaw_mode a b hab ha hb, partnerL_mode _ _ (by omega), sub_self]

theorem hdcovRaw_reflect (a b : ℕ) (hab : 2 < a + b) (ha : 0 < a) (hb : 0 < b) {x : ℝ}
    (hx : x ∈ Icc (mode (a - 1) (b - 1)) 1) : hdcovRaw a b x = hdcovRaw b a (1 - x) := by
  have hpos : 0 < (a - 1) + (b - 1) := by omega
  rw [hdcovRaw_right' a b hab ha hb hx.1, hdcovRaw_left b a (refl_mem _ _ hpos hx).2, partnerL_eq _ _ hpos hx,
    G_one_sub a b ha hb, eq_sub_of_add_eq (G_reflect a b ha hb x), sub_sub_sub_cancel_left]

theorem hdcovRaw_strictAntiOn (a b : ℕ) (hab : 2 < a + b) (ha : 0 < a) (hb : 0 < b) :
    StrictAntiOn (hdcovRaw a b) (Icc 0 (mode (a - 1) (b - 1))) := by
  intro x hx x' hx' hxx
  have hpos : 0 < (a - 1) + (b - 1) := by omega
  rw [hdcovRaw_left a b hx.2, hdcovRaw_left a b hx'.2]
  have hm1 := mode_le_one (a - 1) (b - 1)
  have hp := partnerR_mem _ _ hpos hx
  have hp' := partnerR_mem _ _ hpos hx'
  have h1 : G a b x < G a b x' :=
    G_strictMonoOn a b ha hb ⟨hx.1, hx.2.trans hm1⟩ ⟨hx'.1, hx'.2.trans hm1⟩ hxx
  have h2 : G a b (partnerR (a - 1) (b - 1) x') ≤ G a b (partnerR (a - 1) (b - 1) x) :=
    G_mono a b _ _ ((mode_nonneg _ _).trans hp'.1.1) (partnerR_anti _ _ hpos hx hx' hxx.le) hp.1.2
  linarith

theorem hdcovRaw_strictMonoOn (a b : ℕ) (hab : 2 < a + b) (ha : 0 < a) (hb : 0 < b) :
    StrictMonoOn (hdcovRaw a b) (Icc (mode (a - 1) (b - 1)) 1) := by
  intro x hx x' hx' hxx
  have hpos : 0 < (a - 1) + (b - 1) := by omega
  rw [hdcovRaw_reflect a b hab ha hb hx, hdcovRaw_reflect a b hab ha hb hx']
  exact hdcovRaw_strictAntiOn b a (by omega) hb ha (refl_mem _ _ hpos hx') (refl_mem _ _ hpos hx) (sub_lt_sub_left hxx 1)

/-- for `a ≥ 2` the density vanishes at `0`, so the level set of `0` is `[0,1]` -/
theorem hdcovRaw_zero (a b : ℕ) (ha : 2 ≤ a) (hb : 0 < b) : hdcovRaw a b 0 = 1 := by
  rw [hdcovRaw_left a b (mode_nonneg _ _), partnerR_zero _ _ (by omega), G_one a b hb, G_zero a b (by omega), sub_zero]

theorem hdcovRaw_one (a b : ℕ) (ha : 0 < a) (hb : 2 ≤ b) : hdcovRaw a b 1 = 1 := by
  rw [hdcovRaw_reflect a b (by omega) ha (by omega) ⟨mode_le_one _ _, le_rfl⟩, sub_self, hdcovRaw_zero b a hb ha]

theorem hdcovRaw_mem_unit (a b : ℕ) (hab : 2 < a + b) (ha : 0 < a) (hb : 0 < b) {x : ℝ} (hx : x ∈ Icc (0:ℝ) 1) :
    hdcovRaw a b x ∈ Icc (0:ℝ) 1 := by
  have left : ∀ a b : ℕ, 2 < a + b → ∀ x ∈ Icc 0 (mode (a - 1) (b - 1)), hdcovRaw a b x ∈ Icc (0:ℝ) 1 := by
    intro a b hab x hx
    have hp := (partnerR_mem _ _ (by omega) hx).1
    rw [hdcovRaw_left a b hx.2]
    exact ⟨sub_nonneg.2 (G_mono a b x _ hx.1 (hx.2.trans hp.1) hp.2),
      by linarith [(G_mem_unit a b ((mode_nonneg _ _).trans hp.1) hp.2).2,
        (G_mem_unit a b hx.1 (hx.2.trans (mode_le_one _ _))).1]⟩
  rcases le_total x (mode (a - 1) (b - 1)) with h | h
  · exact left a b hab x ⟨hx.1, h⟩
  · rw [hdcovRaw_reflect a b hab ha hb ⟨h, hx.2⟩]
    exact left b a (by omega) _ (refl_mem _ _ (by omega) ⟨h, hx.2⟩)

/-- `a = 1` (density decreasing, mode `0`): the level set of `x` is `[0,x]`, the coverage is `G x` -/
theorem hdcovRaw_a_one (b : ℕ) (hb : 2 ≤ b) {x : ℝ} (hx : x ∈ Icc (0:ℝ) 1) : hdcovRaw 1 b x = G 1 b x := by
  have hm : mode (1 - 1) (b - 1) = 0 := by rw [Nat.sub_self]; exact mode_zero_left _
  have hmx : mode (1 - 1) (b - 1) ≤ x := by rw [hm]; exact hx.1
  rw [hdcovRaw_right' 1 b (by omega) one_pos (by omega) hmx]
  have hp := partnerL_mem (1 - 1) (b - 1) (by omega) ⟨hmx, hx.2⟩
  have : partnerL (1 - 1) (b - 1) x = 0 := le_antisymm (by rw [← hm]; exact hp.1.2) hp.1.1
  rw [this, G_zero 1 b one_pos, sub_zero]

/-- `b = 1` (density increasing, mode `1`): the level set of `x` is `[x,1]`, the coverage is `1 − G x` -/
theorem hdcovRaw_b_one (a : ℕ) (ha : 2 ≤ a) {x : ℝ} (hx : x ∈ Icc (0:ℝ) 1) : hdcovRaw a 1 x = 1 - G a 1 x := by
  have hx' : 1 - x ∈ Icc (0:ℝ) 1 := ⟨sub_nonneg.2 hx.2, sub_le_self 1 hx.1⟩
  have h := hdcovRaw_reflect 1 a (by omega) one_pos (by omega) (x := 1 - x)
    ⟨by rw [Nat.sub_self, mode_zero_left]; exact hx'.1, hx'.2⟩
  rw [sub_sub_cancel] at h
  rw [← h, hdcovRaw_a_one a ha hx', G_one_sub 1 a one_pos (by omega)]

theorem hdcov_strictAntiOn (a b : ℕ) (hab : 2 < a + b) (ha : 0 < a) (hb : 0 < b) :
    StrictAntiOn (hdcov a b) (Icc 0 (mode (a - 1) (b - 1))) :=
  (hdcovRaw_strictAntiOn a b hab ha hb).congr fun _ hx =>
    (hdcov_of_mem a b ⟨hx.1, hx.2.trans (mode_le_one _ _)⟩).symm

theorem hdcov_strictMonoOn (a b : ℕ) (hab : 2 < a + b) (ha : 0 < a) (hb : 0 < b) :
    StrictMonoOn (hdcov a b) (Icc (mode (a - 1) (b - 1)) 1) :=
  (hdcovRaw_strictMonoOn a b hab ha hb).congr fun _ hx =>
    (hdcov_of_mem a b ⟨(mode_nonneg _ _).trans hx.1, hx.2⟩).symm

/-- the strict sublevel sets are intervals -/
theorem measurable_vShape_comp_clamp {c : ℝ → ℝ} {m : ℝ} (hl : AntitoneOn c (Icc 0 m)) (hr : MonotoneOn c (Icc m 1)) :
    Measurable fun x => c (clamp01 x) := by
  refine measurable_of_Iio fun t => ?_
  have hset : (fun x => c (clamp01 x)) ⁻¹' Iio t = clamp01 ⁻¹' {z | z ∈ Icc (0:ℝ) 1 ∧ c z < t} := by
    ext x
    simp only [mem_preimage, mem_Iio, mem_ofPred_eq]
    exact ⟨fun h => ⟨clamp01_mem x, h⟩, fun h => h.2⟩
  rw [hset]
  refine (show Continuous clamp01 from Opda.RectProbP.unifCdf_cont).measurable (Set.OrdConnected.measurableSet ⟨?_⟩)
  rintro z1 ⟨h1, c1⟩ z2 ⟨h2, c2⟩ z ⟨hz1, hz2⟩
  refine ⟨⟨h1.1.trans hz1, hz2.trans h2.2⟩, ?_⟩
  rcases le_total z m with hzm | hmz
  · exact lt_of_le_of_lt (hl ⟨h1.1, hz1.trans hzm⟩ ⟨h1.1.trans hz1, hzm⟩ hz1) c1
  · exact lt_of_le_of_lt (hr ⟨hmz, hz2.trans h2.2⟩ ⟨hmz.trans hz2, h2.2⟩ hz2) c2

theorem measurable_hdcov (a b : ℕ) (hab : 2 < a + b) (ha : 0 < a) (hb : 0 < b) : Measurable (hdcov a b) :=
  measurable_vShape_comp_clamp (hdcovRaw_strictAntiOn a b hab ha hb).antitoneOn
    (hdcovRaw_strictMonoOn a b hab ha hb).monotoneOn

/-- **the level set is the shortest interval of its mass** (`a, b ≥ 2`, `x` left of the mode, `0 < x`): every interval
`[u,v] ⊆ [0,1]` whose Beta(a,b)-mass is at least `hdcovRaw a b x` is at least as long as `[x, partnerR x]` — so `hdcovRaw a b x`
is the coverage of the smallest highest-density interval containing `x` (C15 `hdi_shortest`) -/
theorem hd_interval_shortest_left (a b : ℕ) (ha : 2 ≤ a) (hb : 2 ≤ b) {x : ℝ} (hx0 : 0 < x)
    (hxm : x ≤ mode (a - 1) (b - 1)) (u v : ℝ) (hu : 0 ≤ u) (huv : u ≤ v) (hv : v ≤ 1)
    (hmass : hdcovRaw a b x ≤ G a b v - G a b u) : partnerR (a - 1) (b - 1) x - x ≤ v - u := by
  have hpos : 0 < (a - 1) + (b - 1) := by omega
  have hx : x ∈ Icc 0 (mode (a - 1) (b - 1)) := ⟨hx0.le, hxm⟩
  have hp := partnerR_mem _ _ hpos hx
  have hk : (0:ℝ) < (Opda.BetaBinom.betaNorm a b : ℝ) := by exact_mod_cast betaNorm_pos a b (by omega) (by omega)
  refine Opda.UtilsExtra.hdi_shortest (g (a - 1) (b - 1)) (g_continuous _ _) (mode (a - 1) (b - 1)) x
    (partnerR (a - 1) (b - 1) x) hx0.le hxm hp.1.1 hp.1.2 (g_mono _ _ hpos) (g_anti _ _ hpos)
    (g_partnerR _ _ (by omega) hx).symm ?_ u v hu huv hv ?_
  · exact mul_pos (pow_pos hx0 _) (pow_pos (sub_pos.2 (hxm.trans_lt (mode_lt_one _ _ (by omega)))) _)
  · rw [hdcovRaw_left a b hxm, mass_eq_mul_integral a b (by omega) (by omega),
      mass_eq_mul_integral a b (by omega) (by omega)] at hmass
    exact le_of_mul_le_mul_left hmass hk

theorem hd_interval_shortest_right (a b : ℕ) (ha : 2 ≤ a) (hb : 2 ≤ b) {x : ℝ} (hmx : mode (a - 1) (b - 1) ≤ x)
    (hx1 : x < 1) (u v : ℝ) (hu : 0 ≤ u) (huv : u ≤ v) (hv : v ≤ 1)
    (hmass : hdcovRaw a b x ≤ G a b v - G a b u) : x - partnerL (a - 1) (b - 1) x ≤ v - u := by
  have hpos : 0 < (a - 1) + (b - 1) := by omega
  have ha' : 0 < a := by omega
  have hb' : 0 < b := by omega
  have hx : x ∈ Icc (mode (a - 1) (b - 1)) 1 := ⟨hmx, hx1.le⟩
  have := hd_interval_shortest_left b a hb ha (sub_pos.2 hx1) (refl_mem _ _ hpos hx).2 (1 - v) (1 - u)
    (sub_nonneg.2 hv) (sub_le_sub_left huv 1) (sub_le_self 1 hu)
    (by rwa [← hdcovRaw_reflect a b (by omega) ha' hb' hx, G_one_sub b a hb' ha', G_one_sub b a hb' ha',
          sub_sub_sub_cancel_left])
  rw [partnerL_eq _ _ hpos hx]; linarith

section ld
open MeasureTheory Opda.RectProbP Opda.OrderStatBeta

/-- the highest-density coverage function of the `i`-th (0-based) of `n` order statistics: `hdcov (i+1) (n−i)`, the mass
under Beta(i+1, n−i) of the smallest highest-density interval containing `x` -/
noncomputable def betaHdCov (n : ℕ) (i : Fin n) : ℝ → ℝ := hdcov (i.val + 1) (n - i.val)

noncomputable def betaHdMode (n : ℕ) (i : Fin n) : ℝ := mode (i.val + 1 - 1) (n - i.val - 1)

theorem betaHdMode_eq (n : ℕ) (i : Fin n) : betaHdMode n i = (i.val : ℝ) / ((n : ℝ) - 1) := by
  unfold betaHdMode mode
  have hi := i.isLt
  have e : ((n - i.val - 1 : ℕ) : ℝ) = (n : ℝ) - i.val - 1 := by
    rw [Nat.cast_sub (by omega), Nat.cast_sub (by omega)]; simp
  rw [Nat.add_sub_cancel, e]
  congr 1; ring

theorem betaHd_params (n : ℕ) (hn : 2 ≤ n) (i : Fin n) :
    2 < (i.val + 1) + (n - i.val) ∧ 0 < i.val + 1 ∧ 0 < n - i.val := by
  have := i.isLt
  omega

theorem betaHd_measurable (n : ℕ) (hn : 2 ≤ n) (i : Fin n) : Measurable (betaHdCov n i) :=
  measurable_hdcov _ _ (betaHd_params n hn i).1 (betaHd_params n hn i).2.1 (betaHd_params n hn i).2.2

theorem betaHd_strictAntiOn (n : ℕ) (hn : 2 ≤ n) (i : Fin n) :
    StrictAntiOn (betaHdCov n i) (Icc 0 (betaHdMode n i)) :=
  hdcov_strictAntiOn _ _ (betaHd_params n hn i).1 (betaHd_params n hn i).2.1 (betaHd_params n hn i).2.2

theorem betaHd_strictMonoOn (n : ℕ) (hn : 2 ≤ n) (i : Fin n) :
    StrictMonoOn (betaHdCov n i) (Icc (betaHdMode n i) 1) :=
  hdcov_strictMonoOn _ _ (betaHd_params n hn i).1 (betaHd_params n hn i).2.1 (betaHd_params n hn i).2.2

theorem betaHd_level_finite (n : ℕ) (hn : 2 ≤ n) (i : Fin n) (t : ℝ) :
    {x | x ∈ Icc (0:ℝ) 1 ∧ betaHdCov n i x = t}.Finite :=
  vShape_level_finite (betaHd_strictAntiOn n hn i) (betaHd_strictMonoOn n hn i) t

theorem betaHd_level_null (n : ℕ) (hn : 2 ≤ n) (i : Fin n) (t : ℝ) :
    (volume : Measure ℝ) {x | x ∈ Icc (0:ℝ) 1 ∧ betaHdCov n i x = t} = 0 := (betaHd_level_finite n hn i t).measure_zero _

/-- **the highest-density ld statistic of the code** `max_i hdcov(i+1, n−i)(U₍ᵢ₎)`, `n ≥ 2`, has a continuous distribution
function -/
theorem betaHd_cdf_continuous (n : ℕ) [NeZero n] (hn : 2 ≤ n) : Continuous (cdfOf (ldLaw (betaHdCov n))) :=
  vShapeLaw_cdf_continuous (betaHd_measurable n hn) (betaHdMode n) (betaHd_strictAntiOn n hn) (betaHd_strictMonoOn n hn)

end ld

section bracket
open Opda.BetaBinom

/-- **`beta.hdcov` brackets `hdcov`**, `x` left of the mode: the hypotheses about the level-set end `y*` of
`hdCoverageBracket_sound_left` hold for `y* = partnerR x`, so the exact rational bracket contains `hdcov a b x` -/
theorem hdCoverageBracket_hdcov_left (a b : ℕ) (ha : 0 < a) (hb : 0 < b) (hab : 2 < a + b) (x : ℚ) (steps : ℕ)
    (hx0 : 0 ≤ x) (hxm : x < modeQ a b) :
    (((hdCoverageBracket a b x steps).1 : ℚ) : ℝ) ≤ hdcov a b (x : ℝ)
      ∧ hdcov a b (x : ℝ) ≤ (((hdCoverageBracket a b x steps).2 : ℚ) : ℝ) := by
  have hmode := modeQ_cast a b ha hb
  have hpos : 0 < (a - 1) + (b - 1) := by omega
  have hx : (x : ℝ) ∈ Icc 0 (mode (a - 1) (b - 1)) := ⟨by exact_mod_cast hx0, by rw [← hmode]; exact_mod_cast hxm.le⟩
  have hp := (partnerR_mem _ _ hpos hx).1
  have hm0 := mode_nonneg (a - 1) (b - 1)
  rw [hdcov_of_mem a b ⟨hx.1, hx.2.trans (mode_le_one _ _)⟩, hdcovRaw_left a b hx.2]
  refine hdCoverageBracket_sound_left a b x steps hx0 hxm _ (hmode ▸ hp.1) hp.2
    (fun s hs1 hs2 => ?_) (fun s hs1 hs2 => not_le.1 fun h => ?_)
  · rw [hmode] at hs1
    exact (levelSet_left _ _ hpos hx ⟨hm0.trans hs1, hs2.trans hp.2⟩).mpr ⟨hx.2.trans hs1, hs2⟩
  · exact hs1.not_ge ((levelSet_left _ _ hpos hx ⟨(hm0.trans hp.1).trans hs1.le, hs2⟩).mp h).2

/-- **`beta.hdcov` brackets `hdcov`**, `x` right of the mode: `hdCoverageBracket_sound_right` at `y* = partnerL x` -/
theorem hdCoverageBracket_hdcov_right (a b : ℕ) (ha : 0 < a) (hb : 0 < b) (hab : 2 < a + b) (x : ℚ) (steps : ℕ)
    (hx1 : x ≤ 1) (hmx : modeQ a b < x) :
    (((hdCoverageBracket a b x steps).1 : ℚ) : ℝ) ≤ hdcov a b (x : ℝ)
      ∧ hdcov a b (x : ℝ) ≤ (((hdCoverageBracket a b x steps).2 : ℚ) : ℝ) := by
  have hmode := modeQ_cast a b ha hb
  have hpos : 0 < (a - 1) + (b - 1) := by omega
  have hmx' : mode (a - 1) (b - 1) < (x : ℝ) := by rw [← hmode]; exact_mod_cast hmx
  have hx : (x : ℝ) ∈ Icc (mode (a - 1) (b - 1)) 1 := ⟨hmx'.le, by exact_mod_cast hx1⟩
  have hp := (partnerL_mem _ _ hpos hx).1
  have hm1 := mode_le_one (a - 1) (b - 1)
  rw [hdcov_of_mem a b ⟨(mode_nonneg _ _).trans hx.1, hx.2⟩, hdcovRaw_right a b hmx']
  refine hdCoverageBracket_sound_right a b x steps hx1 hmx _ hp.1 (hmode ▸ hp.2)
    (fun s hs1 hs2 => ?_) (fun s hs1 hs2 => not_le.1 fun h => ?_)
  · rw [hmode] at hs2
    exact (levelSet_right _ _ hpos hx ⟨hp.1.trans hs1, hs2.trans hm1⟩).mpr ⟨hs1, hs2.trans hx.1⟩
  · exact hs2.not_ge ((levelSet_right _ _ hpos hx ⟨hs1, (hs2.le.trans hp.2).trans hm1⟩).mp h).1

end bracket

end Opda.BetaHdV

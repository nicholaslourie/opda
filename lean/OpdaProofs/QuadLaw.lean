import OpdaModel.Quadratic
import OpdaProofs.RealInst
import OpdaProofs.Small
import Mathlib.MeasureTheory.Measure.Lebesgue.Basic
import Mathlib.Tactic

/-! The noiseless class `Opda.Quad` read at `ℝ` (C05-T1/T2/T3-law, C08-T1, C09).

The equations of `cdf`, `ppf`, `pdf`, `mean`, `variance` are stated once (`cdf_eq`, `pdf_eq` for `a < b`); proofs about
`a < b` use these and do not unfold the model (the point mass `a = b` is read off the definitions in `Props/C05`).
The reflection `(a, b, convex) ↦ (−b, −a, concave)`: where the convex case needs an argument, the proof opens with
`wlog hcv : d.convex` and sends the concave shape to the convex one by `cdf_reflect`/`ppf_reflect_all`/`pdf_reflect`;
where both shapes are one closed-form comparison they are done side by side. -/

namespace Opda.Sampling
open MeasureTheory Set

/-- C13-T1, inverse-transform sampling, for any preorder of values (used here for `ppf`, in `Props/C13` for the
empirical class too): if a quantile function `Q` and a distribution function `F` satisfy the Galois law on levels in
`(0,1]` (C03-T4, C05-T2), then for `U` uniform on `(0,1]` the event `Q(U) ≤ y` has probability `F(y)`. -/
theorem inverse_transform {E : Type} [Preorder E] (Q : ℝ → E) (F : E → ℝ) (y : E)
    (hF0 : 0 ≤ F y) (hF1 : F y ≤ 1)
    (hgal : ∀ u, 0 < u → u ≤ 1 → (Q u ≤ y ↔ u ≤ F y)) :
    volume {u : ℝ | u ∈ Ioc (0:ℝ) 1 ∧ Q u ≤ y} = ENNReal.ofReal (F y) := by
  have hset : {u : ℝ | u ∈ Ioc (0:ℝ) 1 ∧ Q u ≤ y} = Ioc 0 (F y) := by
    ext u
    simp only [mem_ofPred_eq, mem_Ioc]
    constructor
    · rintro ⟨⟨h0, h1⟩, hq⟩
      exact ⟨h0, (hgal u h0 h1).mp hq⟩
    · rintro ⟨h0, hle⟩
      have h1 : u ≤ 1 := le_trans hle hF1
      exact ⟨⟨h0, h1⟩, (hgal u h0 h1).mpr hle⟩
  rw [hset, Real.volume_Ioc, sub_zero]

#print axioms inverse_transform
end Opda.Sampling

namespace Opda.Quad
open Opda Opda.Num

/- The model has two textually identical clips: `Num.clip` (here, at `ℝ`) and `Noisy.clip` (any ordered field), whose
lemmas are `Noisy.clip_*` in `NoisyLogic.lean`; at `ℝ` the two are equal by `rfl`. -/

theorem clip_eq {lo hi : ℝ} (h : lo ≤ hi) (x : ℝ) : clip x lo hi = max lo (min x hi) := by
  unfold clip
  split_ifs with h1 h2
  · rw [max_eq_left ((min_le_left _ _).trans h1.le)]
  · rw [min_eq_right h2.le, max_eq_right h]
  · rw [min_eq_left (not_lt.mp h2), max_eq_right (not_lt.mp h1)]

theorem clip_mem (x lo hi : ℝ) (h : lo ≤ hi) : lo ≤ clip x lo hi ∧ clip x lo hi ≤ hi := by
  rw [clip_eq h]; exact ⟨le_max_left _ _, max_le h (min_le_right _ _)⟩

theorem clip_of_mem (x lo hi : ℝ) (h1 : lo ≤ x) (h2 : x ≤ hi) : clip x lo hi = x := by
  rw [clip_eq (h1.trans h2), min_eq_left h2, max_eq_right h1]

theorem clip_of_le {x lo hi : ℝ} (hx : x ≤ lo) (h : lo ≤ hi) : clip x lo hi = lo := by
  rw [clip_eq h, max_eq_left ((min_le_left _ _).trans hx)]

theorem clip_of_ge {x lo hi : ℝ} (hx : hi ≤ x) (h : lo ≤ hi) : clip x lo hi = hi := by
  rw [clip_eq h, min_eq_right hx, max_eq_right h]

theorem clip_mono (lo hi : ℝ) {x x' : ℝ} (h : x ≤ x') (hlh : lo ≤ hi) : clip x lo hi ≤ clip x' lo hi := by
  rw [clip_eq hlh, clip_eq hlh]; exact max_le_max le_rfl (min_le_min h le_rfl)

theorem clip_map_mono {f : ℝ → ℝ} (hf : Monotone f) {lo hi : ℝ} (h : lo ≤ hi) (x : ℝ) :
    clip (f x) (f lo) (f hi) = f (clip x lo hi) := by
  rw [clip_eq h, clip_eq (hf h), hf.map_max, hf.map_min]

theorem clip_map_anti {f : ℝ → ℝ} (hf : Antitone f) {lo hi : ℝ} (h : lo ≤ hi) (x : ℝ) :
    clip (f x) (f hi) (f lo) = f (clip x lo hi) := by
  rw [clip_eq h, clip_eq (hf h), hf.map_max, hf.map_min]
  -- left to show: `max (f hi) (min (f x) (f lo)) = min (f lo) (max (f x) (f hi))`; distribute, `max (f hi) (f lo) = f lo`
  rw [max_min_distrib_left, max_eq_right (hf h), min_comm, max_comm]

theorem clip_neg (x lo hi : ℝ) (h : lo ≤ hi) : clip (-x) (-hi) (-lo) = -clip x lo hi :=
  clip_map_anti (fun _ _ => neg_le_neg) h x

theorem clip_one_sub (u : ℝ) : clip (1 - u) (0:ℝ) 1 = 1 - clip u 0 1 := by
  simpa using clip_map_anti (f := fun x => 1 - x) (fun _ _ h => sub_le_sub_left h 1) zero_le_one u

/-- `Small.lerp_mem` read from the upper end: `b − (b − a)·w = a + (b − a)·(1 − w)` -/
theorem lerp_mem_mirror {a b w : ℝ} (hab : a ≤ b) (h0 : 0 ≤ w) (h1 : w ≤ 1) :
    a ≤ b - (b - a) * w ∧ b - (b - a) * w ≤ b := by
  have := Small.lerp_mem hab (sub_nonneg.mpr h1) (sub_le_self 1 h0)
  rwa [show a + (b - a) * (1 - w) = b - (b - a) * w by ring] at this

theorem cdf_eq (d : Params ℝ) (hab : d.a < d.b) (y : ℝ) :
    cdf d y = if d.convex then ((clip y d.a d.b - d.a) / (d.b - d.a)) ^ ((d.c:ℝ) / 2)
      else 1 - ((d.b - clip y d.a d.b) / (d.b - d.a)) ^ ((d.c:ℝ) / 2) := by
  simp [cdf, num_eq_false hab.ne]

theorem cdf_of_mem (d : Params ℝ) (hab : d.a < d.b) {y : ℝ} (hya : d.a ≤ y) (hyb : y ≤ d.b) :
    cdf d y = if d.convex then ((y - d.a) / (d.b - d.a)) ^ ((d.c:ℝ) / 2)
      else 1 - ((d.b - y) / (d.b - d.a)) ^ ((d.c:ℝ) / 2) := by
  rw [cdf_eq d hab, clip_of_mem y _ _ hya hyb]

/-- standardised argument `(clip(y) − a)/(b − a) ∈ [0,1]` -/
noncomputable def std (d : Params ℝ) (y : ℝ) : ℝ := (clip y d.a d.b - d.a) / (d.b - d.a)

theorem std_eq_clip (d : Params ℝ) (hab : d.a < d.b) (y : ℝ) : std d y = clip ((y - d.a) / (d.b - d.a)) 0 1 := by
  have hw := sub_pos.mpr hab
  have := clip_map_mono (f := fun y => (y - d.a) / (d.b - d.a))
    (fun _ _ h => div_le_div_of_nonneg_right (sub_le_sub_right h _) hw.le) hab.le y
  simp only [sub_self, zero_div, div_self hw.ne'] at this
  exact this.symm

theorem cdf_eq_std (d : Params ℝ) (hab : d.a < d.b) (y : ℝ) :
    cdf d y = if d.convex then clip ((y - d.a) / (d.b - d.a)) 0 1 ^ ((d.c:ℝ) / 2)
      else 1 - (1 - clip ((y - d.a) / (d.b - d.a)) 0 1) ^ ((d.c:ℝ) / 2) := by
  rw [← std_eq_clip d hab, std, cdf_eq d hab, one_sub_div (sub_pos.mpr hab).ne', sub_sub_sub_cancel_right]

theorem ppf_eq (d : Params ℝ) (q : ℝ) :
    ppf d q = if d.convex then d.a + (d.b - d.a) * clip q 0 1 ^ ((2:ℝ) / d.c)
      else d.b - (d.b - d.a) * (1 - clip q 0 1) ^ ((2:ℝ) / d.c) := by
  simp [ppf]

theorem pdf_eq (d : Params ℝ) (hab : d.a < d.b) (y : ℝ) :
    pdf d y = if y < d.a ∨ d.b < y then 0
      else (d.c:ℝ) / 2 * (if d.convex then (y - d.a) / (d.b - d.a) else (d.b - y) / (d.b - d.a)) ^ ((d.c:ℝ) / 2 - 1)
        / (d.b - d.a) := by
  unfold pdf pdfInside
  simp only [num_eq_false hab.ne, Bool.false_eq_true, if_false, num_n, num_pow, Nat.cast_ofNat, Nat.cast_one,
    Nat.cast_zero]
  by_cases h1 : y < d.a
  · simp [h1]
  by_cases h2 : d.b < y
  · simp [h2]
  rw [if_neg h1, if_neg h2, if_neg (not_or.mpr ⟨h1, h2⟩)]
  split_ifs <;> rw [← div_div, div_mul_eq_mul_div]

theorem mean_eq (d : Params ℝ) :
    mean d = d.a + (d.b - d.a) * (if d.convex then (d.c:ℝ) else 2) / (d.c + 2) := by
  unfold mean
  split_ifs <;> simp only [num_n, Nat.cast_ofNat]

theorem variance_eq (d : Params ℝ) :
    variance d = (d.b - d.a) ^ 2 * 4 * d.c / (((d.c:ℝ) + 2) ^ 2 * (d.c + 4)) := by
  simp only [variance, num_n, num_pow, Nat.cast_ofNat, Real.rpow_two]

theorem reflect_convex {d : Params ℝ} (h : ¬ d.convex) : (reflect d).convex := by simpa [reflect] using h

theorem cdf_reflect (d : Params ℝ) (hab : d.a < d.b) (y : ℝ) :
    cdf d y = 1 - cdf (reflect d) (-y) := by
  rw [cdf_eq d hab, cdf_eq (reflect d) (neg_lt_neg hab)]
  -- `clip` commutes with `−`; then the standardised arguments agree: `(−k) − (−b) = b − k`, `(−a) − (−k) = k − a`
  simp only [reflect, clip_neg y d.a d.b hab.le, neg_sub_neg]
  cases d.convex <;> simp

/-- every level, not only `[0,1]`: `ppf` clips, and `clip(1 − q) = 1 − clip(q)` -/
theorem ppf_reflect_all (d : Params ℝ) (q : ℝ) : ppf d q = - ppf (reflect d) (1 - q) := by
  rw [ppf_eq, ppf_eq, clip_one_sub]
  cases hcv : d.convex <;> simp [reflect, hcv] <;> ring

theorem ppf_reflect (d : Params ℝ) (q : ℝ) (hq0 : 0 ≤ q) (hq1 : q ≤ 1) :
    ppf d q = - ppf (reflect d) (1 - q) := ppf_reflect_all d q

theorem pdf_reflect (d : Params ℝ) (hab : d.a < d.b) (y : ℝ) : pdf d y = pdf (reflect d) (-y) := by
  rw [pdf_eq d hab, pdf_eq (reflect d) (neg_lt_neg hab)]
  simp only [reflect, neg_lt_neg_iff, neg_sub_neg, or_comm (a := d.b < y)]
  cases d.convex <;> rfl

theorem mean_reflect (d : Params ℝ) : mean d = - mean (reflect d) := by
  have h := div_self (show (d.c:ℝ) + 2 ≠ 0 by positivity)
  rw [mean_eq, mean_eq]
  cases hcv : d.convex <;> simp only [reflect, hcv, Bool.not_false, Bool.not_true, Bool.false_eq_true, if_true, if_false] <;>
    linear_combination (d.b - d.a) * h

theorem variance_reflect (d : Params ℝ) : variance d = variance (reflect d) := by
  simp only [variance_eq, reflect, neg_sub_neg]

#print axioms cdf_reflect
#print axioms ppf_reflect

theorem cdf_ppf (d : Params ℝ) (hab : d.a < d.b) (hc : 0 < d.c) (q : ℝ) (hq0 : 0 ≤ q) (hq1 : q ≤ 1) :
    cdf d (ppf d q) = q := by
  wlog hcv : d.convex generalizing d q
  · rw [ppf_reflect_all, cdf_reflect d hab, neg_neg,
      this (reflect d) (neg_lt_neg hab) hc (1 - q) (sub_nonneg.mpr hq1) (sub_le_self 1 hq0) (reflect_convex hcv),
      sub_sub_cancel]
  have hc' : (0:ℝ) < d.c := Nat.cast_pos.mpr hc
  obtain ⟨h1, h2⟩ := Small.lerp_mem hab.le (Real.rpow_nonneg hq0 ((2:ℝ) / d.c))
    (Real.rpow_le_one hq0 hq1 (by positivity))
  rw [ppf_eq, if_pos hcv, clip_of_mem q 0 1 hq0 hq1, cdf_of_mem d hab h1 h2, if_pos hcv, add_sub_cancel_left,
    mul_div_cancel_left₀ _ (sub_pos.mpr hab).ne', ← Real.rpow_mul hq0,
    show (2:ℝ) / d.c * (d.c / 2) = 1 by field_simp, Real.rpow_one]

theorem cdf_below (d : Params ℝ) (hab : d.a < d.b) (hc : 0 < d.c) (y : ℝ) (hy : y ≤ d.a) : cdf d y = 0 := by
  have hα : (d.c:ℝ) / 2 ≠ 0 := by positivity
  rw [cdf_eq d hab, clip_of_le hy hab.le, sub_self, zero_div, div_self (sub_pos.mpr hab).ne', Real.zero_rpow hα,
    Real.one_rpow, sub_self, ite_self]

theorem cdf_above (d : Params ℝ) (hab : d.a < d.b) (hc : 0 < d.c) (y : ℝ) (hy : d.b ≤ y) : cdf d y = 1 := by
  rw [cdf_reflect d hab, cdf_below (reflect d) (neg_lt_neg hab) hc _ (neg_le_neg hy), sub_zero]

theorem cdf_mono (d : Params ℝ) (hab : d.a < d.b) (hc : 0 < d.c) : Monotone (cdf d) := by
  intro y y' h
  wlog hcv : d.convex generalizing d y y'
  · rw [cdf_reflect d hab, cdf_reflect d hab]
    exact sub_le_sub_left (this (reflect d) (neg_lt_neg hab) hc (neg_le_neg h) (reflect_convex hcv)) 1
  have hw := (sub_pos.mpr hab).le
  rw [cdf_eq d hab, cdf_eq d hab, if_pos hcv, if_pos hcv]
  exact Real.rpow_le_rpow (div_nonneg (sub_nonneg.mpr (clip_mem y _ _ hab.le).1) hw)
    (div_le_div_of_nonneg_right (sub_le_sub_right (clip_mono _ _ h hab.le) _) hw) (by positivity)

#print axioms cdf_ppf
#print axioms cdf_mono

theorem cdf_mem (d : Params ℝ) (hab : d.a < d.b) (hc : 0 < d.c) (y : ℝ) : 0 ≤ cdf d y ∧ cdf d y ≤ 1 := by
  constructor
  · rw [← cdf_below d hab hc (min y d.a) (min_le_right _ _)]
    exact cdf_mono d hab hc (min_le_left _ _)
  · rw [← cdf_above d hab hc (max y d.b) (le_max_right _ _)]
    exact cdf_mono d hab hc (le_max_left _ _)

theorem ppf_cdf (d : Params ℝ) (hab : d.a < d.b) (hc : 0 < d.c) (y : ℝ) (hya : d.a ≤ y) (hyb : y ≤ d.b) :
    ppf d (cdf d y) = y := by
  wlog hcv : d.convex generalizing d y
  · rw [ppf_reflect_all, cdf_reflect d hab, sub_sub_cancel,
      this (reflect d) (neg_lt_neg hab) hc (-y) (neg_le_neg hyb) (neg_le_neg hya) (reflect_convex hcv), neg_neg]
  have hw := sub_pos.mpr hab
  have hc' : (0:ℝ) < d.c := Nat.cast_pos.mpr hc
  have ht : 0 ≤ (y - d.a) / (d.b - d.a) := div_nonneg (sub_nonneg.mpr hya) hw.le
  rw [ppf_eq, if_pos hcv, clip_of_mem _ 0 1 (cdf_mem d hab hc y).1 (cdf_mem d hab hc y).2, cdf_of_mem d hab hya hyb,
    if_pos hcv, ← Real.rpow_mul ht, show (d.c:ℝ) / 2 * (2 / d.c) = 1 by field_simp, Real.rpow_one,
    mul_div_cancel₀ _ hw.ne', add_sub_cancel]

theorem ppf_mono (d : Params ℝ) (hab : d.a ≤ d.b) : Monotone (ppf d) := by
  intro q q' h
  wlog hcv : d.convex generalizing d q q'
  · rw [ppf_reflect_all d q, ppf_reflect_all d q']
    exact neg_le_neg (this (reflect d) (neg_le_neg hab) (sub_le_sub_left h 1) (reflect_convex hcv))
  rw [ppf_eq, ppf_eq, if_pos hcv, if_pos hcv]
  exact add_le_add_right (mul_le_mul_of_nonneg_left (Real.rpow_le_rpow (clip_mem q 0 1 zero_le_one).1
    (clip_mono 0 1 h zero_le_one) (by positivity)) (sub_nonneg.mpr hab)) _

theorem ppf_mem (d : Params ℝ) (hab : d.a ≤ d.b) (q : ℝ) : d.a ≤ ppf d q ∧ ppf d q ≤ d.b := by
  wlog hcv : d.convex generalizing d q
  · obtain ⟨h1, h2⟩ := this (reflect d) (neg_le_neg hab) (1 - q) (reflect_convex hcv)
    rw [ppf_reflect_all]
    exact ⟨le_neg_of_le_neg h2, neg_le_of_neg_le h1⟩
  obtain ⟨l, u⟩ := clip_mem q 0 1 zero_le_one
  rw [ppf_eq, if_pos hcv]
  exact Small.lerp_mem hab (Real.rpow_nonneg l _) (Real.rpow_le_one l u (by positivity))

section law
open MeasureTheory Set

/-- Galois law between `ppf` and `cdf` on levels in `(0,1]` -/
theorem ppf_le_iff (d : Params ℝ) (hab : d.a < d.b) (hc : 0 < d.c) (u : ℝ) (hu0 : 0 < u) (hu1 : u ≤ 1)
    (y : ℝ) : ppf d u ≤ y ↔ u ≤ cdf d y := by
  constructor
  · intro h
    rw [← cdf_ppf d hab hc u hu0.le hu1]
    exact cdf_mono d hab hc h
  · intro h
    rcases lt_or_ge y d.a with hya | hya
    · rw [cdf_below d hab hc y hya.le] at h; linarith
    · rcases le_or_gt d.b y with hyb | hyb
      · exact (ppf_mem d hab.le u).2.trans hyb
      · rw [← ppf_cdf d hab hc y hya hyb.le]
        exact ppf_mono d hab.le h

/-- **T3 (law)**: for `U` uniform on `(0,1]`, `P[ppf U ≤ y] = cdf y` -/
theorem ppf_law (d : Params ℝ) (hab : d.a < d.b) (hc : 0 < d.c) (y : ℝ) :
    volume {u : ℝ | u ∈ Ioc (0:ℝ) 1 ∧ ppf d u ≤ y} = ENNReal.ofReal (cdf d y) :=
  Opda.Sampling.inverse_transform (ppf d) (cdf d) y (cdf_mem d hab hc y).1 (cdf_mem d hab hc y).2
    (fun u h0 h1 => ppf_le_iff d hab hc u h0 h1 y)

end law

theorem level_eq (m : Bool) (q nn : ℝ) :
    level m q nn = if m then 1 - (1 - q) ^ (1 / nn) else q ^ (1 / nn) := by
  unfold level; simp

/-- the level handed to `ppf` is a probability -/
theorem level_mem (m : Bool) (q nn : ℝ) (hq0 : 0 ≤ q) (hq1 : q ≤ 1) (hn : 0 < nn) :
    0 ≤ level m q nn ∧ level m q nn ≤ 1 := by
  have he : (0:ℝ) ≤ 1 / nn := one_div_nonneg.mpr hn.le
  rw [level_eq]
  cases m
  · exact ⟨Real.rpow_nonneg hq0 _, Real.rpow_le_one hq0 hq1 he⟩
  · exact ⟨sub_nonneg.mpr (Real.rpow_le_one (sub_nonneg.mpr hq1) (sub_le_self 1 hq0) he),
      sub_le_self 1 (Real.rpow_nonneg (sub_nonneg.mpr hq1) _)⟩

theorem level_compl (m : Bool) (q nn : ℝ) : level (!m) (1 - q) nn = 1 - level m q nn := by
  rw [level_eq, level_eq, sub_sub_cancel]
  cases m <;> simp

theorem quantileTuningCurve_eq (d : Params ℝ) (nn q : ℝ) (mn : Option Bool) :
    quantileTuningCurve d nn q mn = ppf d (level (mn.getD d.convex) q nn) := rfl

/-- **C08-T1 (noiseless)**: the quantile tuning curve hits the level of the best of `n` draws. -/
theorem cdf_quantileTuningCurve (d : Params ℝ) (hab : d.a < d.b) (hc : 0 < d.c) (nn q : ℝ) (mn : Option Bool)
    (hl0 : 0 ≤ level (mn.getD d.convex) q nn) (hl1 : level (mn.getD d.convex) q nn ≤ 1) :
    cdf d (quantileTuningCurve d nn q mn) = level (mn.getD d.convex) q nn := by
  rw [quantileTuningCurve_eq, cdf_ppf d hab hc _ hl0 hl1]

def std0 (d : Params ℝ) : Params ℝ := { a := 0, b := 1, c := d.c, convex := d.convex }

/-- the location–scale clause of C09 for `ppf`, and for `sample`, which is `ppf` of a uniform draw -/
theorem ppf_affine (d : Params ℝ) (q : ℝ) : ppf d q = d.a + (d.b - d.a) * ppf (std0 d) q := by
  rw [ppf_eq, ppf_eq]
  cases hcv : d.convex <;> simp only [std0, hcv, Bool.false_eq_true, if_true, if_false] <;> ring

end Opda.Quad

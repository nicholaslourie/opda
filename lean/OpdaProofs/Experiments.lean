import OpdaModel.Experiments
import OpdaProofs.RealInst
import OpdaProofs.QuadLaw
import OpdaProofs.Small
import OpdaProofs.ExtInst
import OpdaModel.Drv.Exp
import Mathlib.Analysis.SpecialFunctions.Gamma.Basic
import Mathlib.Analysis.SpecialFunctions.Pow.Real
import Mathlib.Algebra.BigOperators.Group.List.Basic
import Mathlib.Tactic

/-! C20: the algebra of `ellipse_volume` / `get_approximation_parameters` on the polymorphic model at `ℝ`; the running
maximum as `scanl max` (length, first entry, recurrence: the order facts of `Props/C20.lean` are inductions on these);
the equations of `Simulation.run`'s bookkeeping; and the driver's `extMax` (`exp.sim`) as that `max`. -/
namespace Opda.Exp
open Opda Opda.Num

noncomputable instance : Consts ℝ where
  pi := Real.pi
  gamma := Real.Gamma

@[simp] theorem consts_pi : (Consts.pi : ℝ) = Real.pi := rfl
@[simp] theorem consts_gamma (x : ℝ) : (Consts.gamma x : ℝ) = Real.Gamma x := rfl

theorem prod_eq (xs : List ℝ) : prod xs = xs.prod := by
  unfold prod
  rw [List.prod_eq_foldl]
  simp only [num_n, Nat.cast_one]

noncomputable def ballCoeff (d : ℕ) : ℝ := Real.pi ^ ((d : ℝ) / 2) / Real.Gamma ((d : ℝ) / 2 + 1)

theorem unitBall_eq (d : ℕ) : (unitBall d : ℝ) = ballCoeff d := by
  unfold unitBall ballCoeff
  simp only [consts_pi, consts_gamma, num_n, num_pow, Nat.cast_ofNat, Nat.cast_one]

theorem ballCoeff_pos (d : ℕ) : 0 < ballCoeff d := by
  unfold ballCoeff
  apply div_pos (Real.rpow_pos_of_pos Real.pi_pos _)
  exact Real.Gamma_pos_of_pos (by positivity)

theorem ellipseVolume_eq (cs : List ℝ) :
    ellipseVolume cs = Real.pi ^ ((cs.length : ℝ) / 2) / Real.Gamma ((cs.length : ℝ) / 2 + 1) * cs.prod := by
  unfold ellipseVolume
  rw [unitBall_eq, prod_eq]
  rfl

theorem ellipseVolume_pos {cs : List ℝ} (h : ∀ c ∈ cs, 0 < c) : 0 < ellipseVolume cs := by
  rw [ellipseVolume_eq]
  exact mul_pos (ballCoeff_pos cs.length) (List.prod_pos h)

theorem ellipseVolume_nil : ellipseVolume ([] : List ℝ) = 1 := by
  rw [ellipseVolume_eq, List.length_nil, Nat.cast_zero, zero_div, Real.rpow_zero, zero_add, Real.Gamma_one, div_one,
    List.prod_nil, mul_one]

theorem axes_eq (eigs : List ℝ) : axes eigs = eigs.map fun l => Real.sqrt (2 / -l) := by
  unfold axes
  apply List.map_congr_left
  intro l _
  simp only [num_n, num_pow, Nat.cast_one, Nat.cast_ofNat]
  rw [Real.sqrt_eq_rpow, div_neg, neg_div]

theorem axes_pos {eigs : List ℝ} (h : ∀ l ∈ eigs, l < 0) : ∀ c ∈ axes eigs, 0 < c := by
  rw [axes_eq]
  intro c hc
  obtain ⟨l, hl, rfl⟩ := List.mem_map.mp hc
  exact Real.sqrt_pos.mpr (div_pos two_pos (neg_pos.mpr (h l hl)))

theorem boxVolume_eq (bounds : List (ℝ × ℝ)) : boxVolume bounds = (bounds.map fun p => p.2 - p.1).prod := by
  unfold boxVolume; rw [prod_eq]

theorem boxVolume_pos {bounds : List (ℝ × ℝ)} (h : ∀ p ∈ bounds, p.1 < p.2) : 0 < boxVolume bounds := by
  rw [boxVolume_eq]
  apply List.prod_pos
  intro x hx
  obtain ⟨p, hp, rfl⟩ := List.mem_map.mp hx
  exact sub_pos.mpr (h p hp)

theorem omega_pos {eigs : List ℝ} {bounds : List (ℝ × ℝ)} (hneg : ∀ l ∈ eigs, l < 0)
    (hb : ∀ p ∈ bounds, p.1 < p.2) : 0 < omega eigs bounds :=
  div_pos (ellipseVolume_pos (axes_pos hneg)) (boxVolume_pos hb)

theorem approxParams_eq (yMax : ℝ) (eigs : List ℝ) (bounds : List (ℝ × ℝ)) :
    approxParams yMax eigs bounds
      = (yMax - (1 / omega eigs bounds) ^ ((2 : ℝ) / (bounds.length : ℝ)), yMax, bounds.length) := by
  unfold approxParams
  simp only [num_n, num_pow, Nat.cast_ofNat, Nat.cast_one]

theorem approxParams_b (yMax : ℝ) (eigs : List ℝ) (bounds : List (ℝ × ℝ)) :
    (approxParams yMax eigs bounds).2.1 = yMax := rfl

theorem approxParams_c (yMax : ℝ) (eigs : List ℝ) (bounds : List (ℝ × ℝ)) :
    (approxParams yMax eigs bounds).2.2 = bounds.length := rfl

theorem approxParams_a_lt_b (yMax : ℝ) {eigs : List ℝ} {bounds : List (ℝ × ℝ)} (hneg : ∀ l ∈ eigs, l < 0)
    (hb : ∀ p ∈ bounds, p.1 < p.2) : (approxParams yMax eigs bounds).1 < yMax := by
  rw [approxParams_eq]
  exact sub_lt_self _ (Real.rpow_pos_of_pos (one_div_pos.mpr (omega_pos hneg hb)) _)

theorem approxDist_convex (yMax : ℝ) (eigs : List ℝ) (bounds : List (ℝ × ℝ)) :
    (approxDist yMax eigs bounds).convex = false := rfl

theorem approxDist_eq (yMax : ℝ) (eigs : List ℝ) (bounds : List (ℝ × ℝ)) :
    approxDist yMax eigs bounds
      = ⟨yMax - (1 / omega eigs bounds) ^ ((2 : ℝ) / (bounds.length : ℝ)), yMax, bounds.length, false⟩ :=
  congrArg (fun p : ℝ × ℝ × ℕ => (⟨p.1, p.2.1, p.2.2, false⟩ : Quad.Params ℝ)) (approxParams_eq yMax eigs bounds)

/-- **C20-T2 on the model**: with `K = ellipse_volume((-2/λ)^{1/2})` (the volume of the level ellipsoid at depth one)
and the box volume as the code computes them, the uniform-search tail `K·(b−y)^{d/2}/vol(box)` is the concave
quadratic tail `1 − cdf(y)` of the returned parameters, for every `y ∈ [a, b]`. -/
theorem tail_exact_model (yMax : ℝ) (eigs : List ℝ) (bounds : List (ℝ × ℝ)) (hd : 0 < bounds.length)
    (hneg : ∀ l ∈ eigs, l < 0) (hb : ∀ p ∈ bounds, p.1 < p.2) (y : ℝ)
    (hya : (approxParams yMax eigs bounds).1 ≤ y) (hyb : y ≤ yMax) :
    ellipseVolume (axes eigs) * (yMax - y) ^ ((bounds.length : ℝ) / 2) / boxVolume bounds
      = 1 - Quad.cdf (approxDist yMax eigs bounds) y := by
  have hab := approxParams_a_lt_b yMax hneg hb
  rw [approxParams_eq] at hya hab
  rw [approxDist_eq, Quad.cdf_of_mem _ hab hya hyb, if_neg Bool.false_ne_true, sub_sub_cancel]
  exact Opda.Small.tail_exact _ _ yMax y _ hd (ellipseVolume_pos (axes_pos hneg)) (boxVolume_pos hb) hyb

section Cummax
variable {β : Type} [LinearOrder β]

omit [LinearOrder β] in
theorem length_cummax (mx : β → β → β) (l : List β) : (cummax mx l).length = l.length := by
  cases l with
  | nil => rfl
  | cons x xs => simp [cummax, List.length_scanl]

theorem cummax_cons (x : β) (xs : List β) : cummax max (x :: xs) = List.scanl max x xs := rfl

theorem cummax_zero (l : List β) (h : 0 < l.length) :
    (cummax max l)[0]'(by rw [length_cummax]; exact h) = l[0] := by
  cases l with
  | nil => simp at h
  | cons x xs => simp [cummax]

theorem cummax_succ (l : List β) (i : ℕ) (hi : i + 1 < l.length) :
    (cummax max l)[i + 1]'(by rw [length_cummax]; exact hi)
      = max ((cummax max l)[i]'(by rw [length_cummax]; omega)) l[i + 1] := by
  cases l with
  | nil => simp at hi
  | cons x xs => simp only [cummax_cons, List.getElem_succ_scanl, List.getElem_cons_succ]

end Cummax

section SimBook
variable {α γ : Type} [Add α] [Sub α] [Mul α]

theorem length_scalePoint (bounds : List (α × α)) (u : List α) :
    (scalePoint bounds u).length = min bounds.length u.length :=
  List.length_zipWith

theorem getElem_scalePoint (bounds : List (α × α)) (u : List α) (i : ℕ) (h1 : i < bounds.length) (h2 : i < u.length) :
    (scalePoint bounds u)[i]'(by rw [length_scalePoint]; omega)
      = bounds[i].1 + (bounds[i].2 - bounds[i].1) * u[i] := by
  simp only [scalePoint, List.getElem_zipWith]

variable (nSamples : ℕ) (func : List α → γ) (mx : γ → γ → γ) (bounds : List (α × α)) (us : List (List (List α)))

theorem simRun_ns : (simRun nSamples func mx bounds us).ns = (List.range nSamples).map (· + 1) := rfl

theorem simRun_ns_getElem (j : ℕ) (hj : j < (simRun nSamples func mx bounds us).ns.length) :
    (simRun nSamples func mx bounds us).ns[j] = j + 1 := by
  simp [simRun]

theorem simRun_ns_length : (simRun nSamples func mx bounds us).ns.length = nSamples := by simp [simRun]

theorem simRun_xss_length : (simRun nSamples func mx bounds us).xss.length = us.length := by simp [simRun]

theorem simRun_yss_length : (simRun nSamples func mx bounds us).yss.length = us.length := by simp [simRun]

theorem simRun_cummax_length :
    (simRun nSamples func mx bounds us).yssCummax.length = us.length := by simp [simRun]

theorem simRun_yss : (simRun nSamples func mx bounds us).yss
    = (simRun nSamples func mx bounds us).xss.map fun trial => trial.map func := rfl

theorem simRun_xs : (simRun nSamples func mx bounds us).xs = (simRun nSamples func mx bounds us).xss.headD [] := rfl
theorem simRun_ys : (simRun nSamples func mx bounds us).ys = (simRun nSamples func mx bounds us).yss.headD [] := rfl

theorem simRun_cummax : (simRun nSamples func mx bounds us).yssCummax
    = (simRun nSamples func mx bounds us).yss.map (cummax mx) := rfl

theorem simBook_eq : simBook nSamples mx (simRun nSamples func mx bounds us).yss
    = ((simRun nSamples func mx bounds us).ns, (simRun nSamples func mx bounds us).ys,
       (simRun nSamples func mx bounds us).yssCummax) := rfl

end SimBook

section SimOrder
variable {α : Type} [Field α] [LinearOrder α] [IsStrictOrderedRing α]

theorem scalePoint_mem (bounds : List (α × α)) (u : List α) (hb : ∀ p ∈ bounds, p.1 ≤ p.2)
    (hu : ∀ t ∈ u, 0 ≤ t ∧ t ≤ 1) (i : ℕ) (hi : i < (scalePoint bounds u).length) (hib : i < bounds.length) :
    bounds[i].1 ≤ (scalePoint bounds u)[i] ∧ (scalePoint bounds u)[i] ≤ bounds[i].2 := by
  have h2 : i < u.length := by rw [length_scalePoint] at hi; omega
  rw [getElem_scalePoint bounds u i hib h2]
  exact Small.lerp_mem (hb _ (List.getElem_mem hib)) (hu _ (List.getElem_mem h2)).1 (hu _ (List.getElem_mem h2)).2

end SimOrder

theorem extMax_eq_max : Opda.Drv.Exp.extMax = (max : Opda.Wire.Ext → Opda.Wire.Ext → Opda.Wire.Ext) := by
  funext x y
  unfold Opda.Drv.Exp.extMax
  rw [max_def]

end Opda.Exp

import OpdaProofs.PolyBridge

/-!
A second interval checker for the same certificates, built for evaluation by the kernel.

`PolyCheck.checkAll` recentres the integer polynomial at every midpoint `m` by `d²/2` list steps on signed
integers.  Here the polynomial is split into its positive and negative parts `p`, `q` (natural coefficients);
for a base `β` above every Taylor coefficient, the coefficients of `p(m + u)` are the base-`β` digits of the
single number `p(β + m)`, so one Horner evaluation per part and one pass over the digits replace the
recentring.  Only `Nat` operations on literals remain, which the kernel performs natively.
-/
namespace Opda.PolyCheck

def evalN : List ℕ → ℕ → ℕ
  | [], _ => 0
  | c :: p, s => c + s * evalN p s

/-- `Σ_{j<k} |x_j − y_j| R^j` for the base-`β` digits `x_j`, `y_j` of `x`, `y` -/
def digitBound (β R : ℕ) : ℕ → ℕ → ℕ → ℕ
  | 0, _, _ => 0
  | k+1, x, y => (x % β - y % β) + (y % β - x % β) + R * digitBound β R k (x / β) (y / β)

def checkIvN (p q : List ℕ) (β B l r : ℕ) : Bool :=
  let m := (l + r) / 2
  let R := r - m
  decide (l ≤ r) && decide (m - l ≤ R)
    && decide (digitBound β R p.length (evalN p (β + m)) (evalN q (β + m)) ≤ B)

def checkAllN (p q : List ℕ) (β B : ℕ) : List ℕ → Bool
  | [] => true
  | [_] => true
  | l :: r :: rest => checkIvN p q β B l r && checkAllN p q β B (r :: rest)

/-- The base is a power of two above `p(sh+1) + q(sh+1)`, hence above every Taylor coefficient of `p` and `q`
at every midpoint `≤ sh`. -/
def packedOK (C : List Int) (B : ℕ) : List ℕ → Bool
  | l :: r :: rest =>
    let p := C.map Int.toNat
    let q := C.map fun c => (-c).toNat
    let sh := (r :: rest).getLastD 0
    checkAllN p q (2 ^ (Nat.log2 (evalN p (sh + 1) + evalN q (sh + 1)) + 1)) B (l :: r :: rest)
  | _ => false

def evalS {S : Type} [CommSemiring S] : List ℕ → S → S
  | [], _ => 0
  | c :: p, s => c + s * evalS p s

theorem evalN_eq_evalS (p : List ℕ) (s : ℕ) : evalN p s = evalS p s := by
  induction p with
  | nil => rfl
  | cons c p ih => simp [evalN, evalS, ih]

def mulLinN (m : ℕ) : List ℕ → ℕ → List ℕ
  | [], c => [c]
  | x :: a, c => (c + m * x) :: mulLinN m a x

def taylor (m : ℕ) : List ℕ → List ℕ
  | [] => []
  | c :: p => mulLinN m (taylor m p) c

variable {S : Type} [CommSemiring S]

theorem evalS_mulLinN (m : ℕ) (a : List ℕ) (c : ℕ) (u : S) :
    evalS (mulLinN m a c) u = c + (m + u) * evalS a u := by
  induction a generalizing c with
  | nil => simp [mulLinN, evalS]
  | cons x a ih => simp only [mulLinN, evalS, ih]; push_cast; ring

theorem evalS_taylor (m : ℕ) (p : List ℕ) (u : S) : evalS (taylor m p) u = evalS p (m + u) := by
  induction p with
  | nil => rfl
  | cons c p ih => rw [taylor, evalS_mulLinN, ih, evalS]

/-- the idea of the checker: the number `p(β + m)` is the recentred list `taylor m p` read in base `β` -/
theorem evalN_taylor (m : ℕ) (p : List ℕ) (β : ℕ) : evalN (taylor m p) β = evalN p (m + β) := by
  simp only [evalN_eq_evalS, evalS_taylor, Nat.cast_id]

theorem length_mulLinN (m : ℕ) (a : List ℕ) (c : ℕ) : (mulLinN m a c).length = a.length + 1 := by
  induction a generalizing c with
  | nil => rfl
  | cons x a ih => simp [mulLinN, ih]

theorem length_taylor (m : ℕ) (p : List ℕ) : (taylor m p).length = p.length := by
  induction p with
  | nil => rfl
  | cons c p ih => rw [taylor, length_mulLinN, ih, List.length_cons]

theorem le_evalN_one {a : List ℕ} {x : ℕ} (hx : x ∈ a) : x ≤ evalN a 1 := by
  induction a with
  | nil => cases hx
  | cons y a ih =>
    rw [evalN, one_mul]
    rcases List.mem_cons.mp hx with rfl | h
    · exact Nat.le_add_right _ _
    · exact (ih h).trans (Nat.le_add_left _ _)

theorem evalN_mono (p : List ℕ) {s t : ℕ} (h : s ≤ t) : evalN p s ≤ evalN p t := by
  induction p with
  | nil => rfl
  | cons c p ih => exact Nat.add_le_add_left (Nat.mul_le_mul h ih) c

/-- the digits of `a(β)`, `b(β)` are the coefficients when these are below `β` -/
theorem abs_sub_le_digitBound {β R : ℕ} {a b : List ℕ} (hlen : a.length = b.length)
    (ha : ∀ x ∈ a, x < β) (hb : ∀ x ∈ b, x < β) {u : ℝ} (hu : |u| ≤ R) :
    |evalS a u - evalS b u| ≤ digitBound β R a.length (evalN a β) (evalN b β) := by
  induction a generalizing b with
  | nil => simp [evalS, List.length_eq_zero_iff.mp hlen.symm, digitBound]
  | cons x a ih =>
    obtain _ | ⟨y, b⟩ := b
    · cases hlen
    have hx := ha x List.mem_cons_self
    have hy := hb y List.mem_cons_self
    have hβ : 0 < β := Nat.zero_lt_of_lt hx
    have IH := ih (by simpa using hlen) (fun z hz => ha z (List.mem_cons_of_mem _ hz))
      (fun z hz => hb z (List.mem_cons_of_mem _ hz))
    -- the lowest base-`β` digit of `x + β·X` is `x`, and the rest is `X`
    simp only [List.length_cons, digitBound, evalN, evalS, Nat.add_mul_mod_self_left,
      Nat.mod_eq_of_lt hx, Nat.mod_eq_of_lt hy, Nat.add_mul_div_left _ _ hβ,
      Nat.div_eq_of_lt hx, Nat.div_eq_of_lt hy, zero_add]
    have hxy : |(x : ℝ) - y| = ((x - y + (y - x) : ℕ) : ℝ) := by
      rcases le_total x y with h | h
      · rw [abs_sub_comm, Nat.sub_eq_zero_of_le h, zero_add, Nat.cast_sub h,
          abs_of_nonneg (sub_nonneg.mpr (Nat.cast_le.mpr h))]
      · rw [Nat.sub_eq_zero_of_le h, add_zero, Nat.cast_sub h,
          abs_of_nonneg (sub_nonneg.mpr (Nat.cast_le.mpr h))]
    calc |(x : ℝ) + u * evalS a u - (y + u * evalS b u)|
        = |((x : ℝ) - y) + u * (evalS a u - evalS b u)| := by ring_nf
      _ ≤ |(x : ℝ) - y| + |u| * |evalS a u - evalS b u| := (abs_add_le _ _).trans (by rw [abs_mul])
      _ ≤ _ := by
        rw [hxy]; push_cast
        exact add_le_add le_rfl (mul_le_mul hu IH (abs_nonneg _) (Nat.cast_nonneg R))

theorem checkIvN_sound {p q : List ℕ} (hlen : p.length = q.length) {β B l r : ℕ}
    (hp : evalN p (r + 1) < β) (hq : evalN q (r + 1) < β) (h : checkIvN p q β B l r = true)
    {s : ℝ} (hl : (l : ℝ) ≤ s) (hr : s ≤ r) : |evalS p s - evalS q s| ≤ B := by
  simp only [checkIvN, Bool.and_eq_true, decide_eq_true_eq] at h
  obtain ⟨⟨hlr, hmR⟩, hb⟩ := h
  set m := (l + r) / 2 with hm
  have hmr : m ≤ r := by omega
  have hu : |s - m| ≤ ((r - m : ℕ) : ℝ) := by
    have h1 : ((m - l : ℕ) : ℝ) ≤ ((r - m : ℕ) : ℝ) := Nat.cast_le.mpr hmR
    rw [Nat.cast_sub hmr] at h1 ⊢
    rw [Nat.cast_sub (by omega : l ≤ m)] at h1
    exact abs_le.mpr ⟨by linarith, by linarith⟩
  have small : ∀ {a : List ℕ}, evalN a (r + 1) < β → ∀ x ∈ taylor m a, x < β := fun {a} ha x hx =>
    calc x ≤ evalN (taylor m a) 1 := le_evalN_one hx
      _ = evalN a (m + 1) := evalN_taylor m a 1
      _ ≤ evalN a (r + 1) := evalN_mono a (by omega)
      _ < β := ha
  -- the recentred lists take the values `p s`, `q s` at `u = s − m`, and read in base `β` they are the checker's two numbers
  have key := abs_sub_le_digitBound (by rw [length_taylor, length_taylor, hlen]) (small hp) (small hq) hu
  rw [evalS_taylor, evalS_taylor, add_sub_cancel, evalN_taylor, evalN_taylor, length_taylor, add_comm m] at key
  exact key.trans (by exact_mod_cast hb)

/-- The first half of the conclusion, read off the checks `l ≤ r` themselves, is what keeps every cut of the tail below `sh`,
where the base is large enough. -/
theorem checkAllN_sound {p q : List ℕ} (hlen : p.length = q.length) {β B sh : ℕ}
    (hp : evalN p (sh + 1) < β) (hq : evalN q (sh + 1) < β) :
    ∀ (l : ℕ) (rest : List ℕ) (hne : rest ≠ []), checkAllN p q β B (l :: rest) = true →
      rest.getLast hne ≤ sh →
      l ≤ rest.getLast hne ∧
        ∀ s : ℝ, (l : ℝ) ≤ s → s ≤ (rest.getLast hne : ℕ) → |evalS p s - evalS q s| ≤ B
  | _, [], hne, _, _ => absurd rfl hne
  | l, [r], _, h, hsh => by
    simp only [checkAllN, Bool.and_true] at h
    have hlr : l ≤ r := by
      simp only [checkIvN, Bool.and_eq_true, decide_eq_true_eq] at h; exact h.1.1
    exact ⟨hlr, fun s => checkIvN_sound hlen ((evalN_mono p (by simpa using hsh)).trans_lt hp)
      ((evalN_mono q (by simpa using hsh)).trans_lt hq) h⟩
  | l, r :: r' :: rest, _, h, hsh => by
    simp only [checkAllN, Bool.and_eq_true] at h
    obtain ⟨hr, ih⟩ := checkAllN_sound hlen hp hq r (r' :: rest) (by simp) (by simpa [checkAllN] using h.2)
      (by simpa using hsh)
    have hlr : l ≤ r := by
      have := h.1; simp only [checkIvN, Bool.and_eq_true, decide_eq_true_eq] at this; exact this.1.1
    have hrs : r ≤ sh := hr.trans (by simpa using hsh)
    refine ⟨hlr.trans (by simpa using hr), fun s hl hs => ?_⟩
    rcases le_total s r with hsr | hsr
    · exact checkIvN_sound hlen ((evalN_mono p (by omega)).trans_lt hp)
        ((evalN_mono q (by omega)).trans_lt hq) h.1 hl hsr
    · exact ih s hsr (by simpa using hs)

theorem evalR_eq_evalS_sub (C : List Int) (s : ℝ) :
    evalR C s = evalS (C.map Int.toNat) s - evalS (C.map fun c => (-c).toNat) s := by
  induction C with
  | nil => simp [evalR, evalS]
  | cons c C ih =>
    have : (c : ℝ) = (c.toNat : ℝ) - ((-c).toNat : ℝ) := by exact_mod_cast (Int.toNat_sub_toNat_neg c).symm
    simp only [evalR, evalS, List.map_cons, ih, this]; ring

theorem packedOK_sound (C : List Int) (B l : ℕ) (rest : List ℕ) (hne : rest ≠ [])
    (h : packedOK C B (l :: rest) = true) (s : ℝ) (hl : (l : ℝ) ≤ s) (hr : s ≤ (rest.getLast hne : ℕ)) :
    |evalR C s| ≤ B := by
  obtain _ | ⟨r, rest⟩ := rest
  · exact absurd rfl hne
  simp only [packedOK, List.getLastD_eq_getLast?, List.getLast?_eq_some_getLast hne, Option.getD_some] at h
  have hβ := Nat.lt_log2_self (n := evalN (C.map Int.toNat) ((r :: rest).getLast hne + 1)
    + evalN (C.map fun c => (-c).toNat) ((r :: rest).getLast hne + 1))
  rw [evalR_eq_evalS_sub]
  exact (checkAllN_sound (by simp) ((Nat.le_add_right _ _).trans_lt hβ) ((Nat.le_add_left _ _).trans_lt hβ)
    l (r :: rest) hne h le_rfl).2 s hl hr

end Opda.PolyCheck

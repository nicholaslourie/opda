import OpdaProofs.EmpAvg
import Mathlib.Analysis.SpecialFunctions.Pow.Real
/-!
C04: the quantile tuning curve — which term it is (`qtcMax`, `qtcMin`: `ppf` at the level `q^(1/n)` resp. `1 − (1−q)^(1/n)`;
the two defining equations are the statement `Props.C04.qtc_is_ppf_at_level`, and the proofs unfold them), the level is
monotone in `n` (the curve statements are in `Props/C04.lean`), and the minimise/maximise duality under an
order-reversing involution of the values, which holds away from exact ties between the level and a value of the cdf.
-/
namespace Opda.Emp

section duality
variable {E α : Type} [LinearOrder E] [Field α] [LinearOrder α] [IsStrictOrderedRing α]

theorem weightLE_mapObs_anti (ν : E → E) (hν : StrictAnti ν) (hinv : ∀ x, ν (ν x) = x) (z : E) (obs : List (E × α)) :
    weightLE z (mapObs ν obs) = total obs - weightLT (ν z) obs := by
  rw [eq_sub_iff_add_eq, weightLE_eq_phiSum, weightLT_eq_phiSum, total_eq_phiSum, phiSum_mapObs, ← phiSum_add]
  refine phiSum_congr fun p _ => ?_
  have : ν p.1 ≤ z ↔ ¬ p.1 < ν z := by rw [not_lt, ← hν.le_iff_ge, hinv]
  by_cases h : p.1 < ν z <;> simp [this, h]

theorem weightLT_mapObs_anti (ν : E → E) (hν : StrictAnti ν) (hinv : ∀ x, ν (ν x) = x) (z : E) (obs : List (E × α)) :
    weightLT z (mapObs ν obs) = total obs - weightLE (ν z) obs := by
  rw [eq_sub_iff_add_eq, weightLE_eq_phiSum, weightLT_eq_phiSum, total_eq_phiSum, phiSum_mapObs, ← phiSum_add]
  refine phiSum_congr fun p _ => ?_
  have : ν p.1 < z ↔ ¬ p.1 ≤ ν z := by rw [not_le, ← hν.lt_iff_gt, hinv]
  by_cases h : p.1 ≤ ν z <;> simp [this, h]

/-- the left limit of the step function is attained -/
theorem weightLT_eq_zero_or_weightLE (l : List (E × α)) (y : E) :
    weightLT y l = 0 ∨ ∃ p ∈ l, p.1 < y ∧ weightLT y l = weightLE p.1 l := by
  by_cases h : ∃ p ∈ l, p.1 < y
  · right
    obtain ⟨m, hm, hmax⟩ := (l.filter fun p => p.1 < y).toFinset.exists_max_image Prod.fst (by
      obtain ⟨p, hp, hpy⟩ := h
      exact ⟨p, by simpa using ⟨hp, hpy⟩⟩)
    simp only [List.mem_toFinset, List.mem_filter, decide_eq_true_eq, and_imp] at hm hmax
    refine ⟨m, hm.1, hm.2, ?_⟩
    rw [weightLT_eq_phiSum, weightLE_eq_phiSum]
    refine phiSum_congr fun p hp => ?_
    by_cases hpy : p.1 < y
    · rw [if_pos hpy, if_pos (hmax p hp hpy)]
    · rw [if_neg hpy, if_neg fun hle => hpy (hle.trans_lt hm.2)]
  · left
    rw [weightLT_eq_phiSum]
    exact (phiSum_congr fun p hp => if_neg fun hpy => h ⟨p, hp, hpy⟩).trans (phiSum_zero l)

variable [OrderBot E] [OrderTop E]

/-- **quantile duality** (at the level of `ppf`): with `ν` an order-reversing involution of the value type (negation),
`ppf_{ys;[a,b]}(l) = ν (ppf_{ν ys;[ν b, ν a]}(1 − l))` for `0 < l < 1`, *provided `l` is not exactly a value of the cdf*. -/
theorem ppf_mirror (ν : E → E) (hν : StrictAnti ν) (hinv : ∀ x, ν (ν x) = x)
    (a b : E) (obs : List (E × α)) (hn : NonNeg obs) (htot : 0 < total obs)
    (hbounds : ∀ p ∈ obs, a ≤ p.1 ∧ p.1 ≤ b)
    (l : α) (hl0 : 0 < l) (hl1 : l < 1) (hnotie : ∀ y, cdf (support ⊥ ⊤ a b obs) y ≠ l) :
    ppf a (support ⊥ ⊤ a b obs) l
      = ν (ppf (ν b) (support ⊥ ⊤ (ν b) (ν a) (mapObs ν obs)) (1 - l)) := by
  set Q := ppf a (support ⊥ ⊤ a b obs) l with hQ
  set Q' := ppf (ν b) (support ⊥ ⊤ (ν b) (ν a) (mapObs ν obs)) (1 - l) with hQ'
  have hn' : NonNeg (mapObs ν obs) := nonNeg_mapObs ν obs hn
  have htot' : 0 < total (mapObs ν obs) := by rw [total_mapObs]; exact htot
  have G := fun y hay => ppf_le_iff a b y obs hn htot l hl0 hl1.le hay
  have G' := fun z hbz => ppf_le_iff (ν b) (ν a) z (mapObs ν obs) hn' htot' (1 - l) (sub_pos.mpr hl1)
    (sub_le_self 1 hl0.le) hbz
  -- the mirrored cdf is the survival function of the original, read from the left
  have hF' : ∀ z, cdf (support ⊥ ⊤ (ν b) (ν a) (mapObs ν obs)) z = 1 - weightLT (ν z) obs / total obs := fun z => by
    rw [cdf_support, total_mapObs, weightLE_mapObs_anti ν hν hinv, sub_div, div_self htot.ne']
  have haQ : a ≤ Q := le_ppf _ _ _
  have hbQ' : ν b ≤ Q' := le_ppf _ _ _
  apply le_antisymm
  · -- `Q ≤ ν Q'` (holds even at ties)
    -- `Q' ≤ ν a`: the mirrored cdf at `ν a` is 1, because no observation lies below `a`
    have hQ'a : Q' ≤ ν a := by
      obtain ⟨p, hp⟩ : ∃ p, p ∈ obs := by
        cases obs with
        | nil => exact absurd htot (lt_irrefl _)
        | cons p _ => exact ⟨p, List.mem_cons_self⟩
      rw [G' (ν a) (hν.antitone ((hbounds p hp).1.trans (hbounds p hp).2)), hF', hinv,
        weightLT_eq_phiSum, (phiSum_congr fun q hq => if_neg (hbounds q hq).1.not_gt).trans (phiSum_zero obs), zero_div,
        sub_zero]
      exact sub_le_self 1 hl0.le
    -- by Galois it suffices that `l ≤ cdf (ν Q')`, and that cdf is 1 minus the mirrored mass strictly below `Q'`
    have hF : cdf (support ⊥ ⊤ a b obs) (ν Q')
        = 1 - weightLT Q' (mapObs ν obs) / total (mapObs ν obs) := by
      rw [cdf_support, weightLT_mapObs_anti ν hν hinv, total_mapObs, sub_div, div_self htot.ne', sub_sub_cancel]
    rw [G (ν Q') (by rw [← hinv a]; exact hν.antitone hQ'a), hF, le_sub_comm]
    -- that mass is 0, or the mirrored cdf at the largest mirrored observation `p < Q'`, which Galois puts below `1 − l`
    rcases weightLT_eq_zero_or_weightLE (mapObs ν obs) Q' with h0 | ⟨p, hp, hpQ', he⟩
    · rw [h0, zero_div]; exact sub_nonneg.mpr hl1.le
    · obtain ⟨q, hq, rfl⟩ := List.mem_map.mp hp
      rw [he, ← cdf_support (ν b) (ν a)]
      exact (not_le.mp ((G' _ (hν.antitone (hbounds q hq).2)).not.mp hpQ'.not_ge)).le
  · -- `ν Q' ≤ Q` (this is where a tie breaks the duality)
    by_contra hcon
    have h1 : l ≤ cdf (support ⊥ ⊤ a b obs) Q := (G Q haQ).mp le_rfl
    have h2 := (G' Q' hbQ').mp le_rfl
    rw [hF', sub_le_sub_iff_left] at h2
    refine hnotie Q (le_antisymm (le_trans ?_ h2) h1)
    rw [cdf_support]
    exact div_le_div_of_nonneg_right (weightLE_le_weightLT obs hn Q (ν Q') (not_le.mp hcon)) htot.le

end duality

section qtc
variable {E : Type} [LinearOrder E] [OrderBot E] [OrderTop E]

/-- `quantile_tuning_curve(n, q, minimize=False) = ppf(q ** (1/n))` -/
noncomputable def qtcMax (a : E) (supp : List (E × ℝ)) (q n : ℝ) : E := ppf a supp (q ^ (1 / n))
/-- `quantile_tuning_curve(n, q, minimize=True) = ppf(1 - (1 - q) ** (1/n))` -/
noncomputable def qtcMin (a : E) (supp : List (E × ℝ)) (q n : ℝ) : E := ppf a supp (1 - (1 - q) ^ (1 / n))

theorem level_mem_unit (q n : ℝ) (hq0 : 0 ≤ q) (hq1 : q ≤ 1) (hn : 0 < n) :
    0 ≤ q ^ (1 / n) ∧ q ^ (1 / n) ≤ 1 :=
  ⟨Real.rpow_nonneg hq0 _, Real.rpow_le_one hq0 hq1 (by positivity)⟩

theorem level_mono (q n m : ℝ) (hq0 : 0 ≤ q) (hq1 : q ≤ 1) (hn : 0 < n) (hnm : n ≤ m) :
    q ^ (1 / n) ≤ q ^ (1 / m) :=
  Real.rpow_le_rpow_of_exponent_ge' hq0 hq1 (one_div_nonneg.mpr (le_trans hn.le hnm)) (one_div_le_one_div_of_le hn hnm)

end qtc

end Opda.Emp

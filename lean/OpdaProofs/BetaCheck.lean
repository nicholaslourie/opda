import OpdaProofs.BetaBinom
import OpdaProofs.HdiBound
import OpdaProofs.Small
import Mathlib.Analysis.Calculus.Deriv.Mul
import Mathlib.Analysis.Calculus.Deriv.Add
import Mathlib.MeasureTheory.Integral.IntervalIntegral.FundThmCalculus
import Mathlib.Tactic

/-!
# The exact Beta(a,b) distribution function for integer parameters and the checkers built on it (C15)

`Opda.BetaCdf` is C15-T0, the binomial tail polynomial is the Beta distribution function:
`d/dp P[Bin(n,p) ≥ k+1] = n · P[Bin(n−1,p) = k] = n·C(n−1,k)·p^k (1−p)^{n−1−k}` (the derivative telescopes), which for
`a = k+1`, `b = n−k` is the Beta(a,b) density `p^{a−1}(1−p)^{b−1}/B(a,b)` with `1/B(a,b) = n·C(n−1,a−1)`; by the fundamental
theorem of calculus the tail is its integral, and the total mass is `tail n (k+1) 1 − tail n (k+1) 0 = 1`, so the constant
*is* the normaliser.

`Opda.BetaCheck`: `G a b` is the Beta(a,b) distribution function over ℝ.  The checkers of `OpdaModel/BetaBinom.lean` run in ℚ
on the implementation's outputs; the `*_sound` theorems say what an accepted check *proves* about the real numbers.  The
optimality certificate is weak duality (`unimodal_level_bound`) for the density `g`.  For `beta.hdcov`,
`hdCoverageBracket a b x steps` bisects, in exact rational arithmetic, for the point `y*` on the other side of the mode where
the density falls to `f x`, and returns `(G l − G x, G h − G x)` for the final bracket `[l,h] ∋ y*` (mirror image right of the
mode); the pair brackets `G y* − G x` whatever the number of steps.
-/
namespace Opda.BetaCdf
open Opda.CP Opda.BetaBinomP

/-- the derivative of the binomial tail in `p` (`hasDerivAt_tail`) -/
noncomputable def dtail (n : ℕ) : ℕ → ℝ → ℝ
  | 0, _ => 0
  | k+1, p => (n : ℝ) * pmf (n - 1) k p

/-- `n` times the one-trial recursion of the binomial mass (`pmf_succ_zero`, `pmf_succ_succ`), written with `dtail` -/
theorem dtail_rec (n k : ℕ) (p : ℝ) : p * dtail n k p + (1 - p) * dtail n (k+1) p = n * pmf n k p := by
  cases n with
  | zero => cases k <;> simp [dtail]
  | succ m => cases k with
    | zero => simp only [dtail, Nat.add_sub_cancel, pmf_succ_zero]; ring
    | succ k => simp only [dtail, Nat.add_sub_cancel, pmf_succ_succ]; ring

theorem hasDerivAt_tail (n k : ℕ) (p : ℝ) : HasDerivAt (fun p : ℝ => tail n k p) (dtail n k p) p := by
  induction n generalizing k with
  | zero =>
    cases k with
    | zero => simp only [tail, dtail]; exact hasDerivAt_const p 1
    | succ k => simp only [tail, dtail, Nat.cast_zero, zero_mul]; exact hasDerivAt_const p 0
  | succ n ih =>
    cases k with
    | zero => simp only [tail_zero, dtail]; exact hasDerivAt_const p 1
    | succ k =>
      -- the product rule on `tail (n+1) (k+1) p = p · tail n k p + (1 − p) · tail n (k+1) p` gives
      -- `pmf n k p + (p · dtail n k p + (1 − p) · dtail n (k+1) p)`, which is `(n + 1) · pmf n k p` by `dtail_rec`
      have h := ((hasDerivAt_id' p).mul (ih k)).add (((hasDerivAt_const p (1:ℝ)).sub (hasDerivAt_id' p)).mul (ih (k+1)))
      simp only [tail]
      refine h.congr_deriv ?_
      have hr := dtail_rec n k p
      rw [show dtail (n+1) (k+1) p = ((n + 1 : ℕ) : ℝ) * pmf n k p from rfl]
      simp only [pmf, Nat.cast_succ, Pi.sub_apply] at hr ⊢
      linear_combination hr

theorem continuous_tail (n k : ℕ) : Continuous (fun p : ℝ => tail n k p) :=
  continuous_iff_continuousAt.2 fun p => (hasDerivAt_tail n k p).continuousAt

theorem continuous_dtail (n k : ℕ) : Continuous (fun p : ℝ => dtail n k p) := by
  cases k with
  | zero => simp only [dtail]; exact continuous_const
  | succ k => exact continuous_const.mul ((continuous_tail (n - 1) k).sub (continuous_tail (n - 1) (k+1)))

/-- the Beta(k+1, n−k) density -/
theorem dtail_succ_eq (n k : ℕ) (p : ℝ) :
    dtail n (k+1) p = (n : ℝ) * (Nat.choose (n - 1) k : ℝ) * p ^ k * (1 - p) ^ (n - 1 - k) := by
  simp only [dtail, pmf_eq]; ring

theorem integral_dtail (n k : ℕ) (u v : ℝ) :
    ∫ x in u..v, dtail n k x = tail n k v - tail n k u :=
  intervalIntegral.integral_eq_sub_of_hasDerivAt (fun x _ => hasDerivAt_tail n k x)
    ((continuous_dtail n k).intervalIntegrable _ _)

/-- the density integrates to one over `[0,1]`: `n·C(n−1,k)` is the normalising constant `1/B(k+1,n−k)` -/
theorem integral_dtail_unit (n k : ℕ) (h : k + 1 ≤ n) : ∫ x in (0:ℝ)..1, dtail n (k+1) x = 1 := by
  rw [integral_dtail, tail_at_one n (k+1) h, tail_at_zero]; ring

theorem dtail_nonneg (n k : ℕ) (p : ℝ) (h0 : 0 ≤ p) (h1 : p ≤ 1) : 0 ≤ dtail n k p := by
  cases k with
  | zero => simp [dtail]
  | succ k => simp only [dtail]; exact mul_nonneg (Nat.cast_nonneg n) (pmf_nonneg _ _ p h0 h1)

#print axioms integral_dtail
end Opda.BetaCdf

namespace Opda.BetaCheck
open Opda.BetaBinom Opda.CP Opda.BetaBinomP Opda.BetaCdf Opda.Hdi Opda.BetaHdV Set

/-- Beta(a,b) distribution function over ℝ (binomial tail polynomial) -/
noncomputable def G (a b : ℕ) (s : ℝ) : ℝ := tail (a + b - 1) a s

/-- needs no `0 < a`, `0 < b` (unlike `G_strictMonoOn`): for `a = 0` or `b = 0` the tail polynomial is constant -/
theorem G_mono (a b : ℕ) (s s' : ℝ) (h0 : 0 ≤ s) (hss : s ≤ s') (h1 : s' ≤ 1) : G a b s ≤ G a b s' :=
  tail_mono_p _ _ s s' h0 hss h1

theorem G_mem_unit (a b : ℕ) {s : ℝ} (h0 : 0 ≤ s) (h1 : s ≤ 1) : 0 ≤ G a b s ∧ G a b s ≤ 1 :=
  tail_bounds _ _ s h0 h1

theorem G_reflect (a b : ℕ) (ha : 0 < a) (hb : 0 < b) (s : ℝ) : G a b s + G b a (1 - s) = 1 := by
  rw [G, G, show b + a - 1 = a + b - 1 by omega]
  exact tail_add_tail _ a b s (by omega)

theorem G_one_sub (a b : ℕ) (ha : 0 < a) (hb : 0 < b) (s : ℝ) : G a b (1 - s) = 1 - G b a s :=
  eq_sub_of_add_eq' (G_reflect b a hb ha s)

theorem G_zero (a b : ℕ) (ha : 0 < a) : G a b 0 = 0 := by
  obtain ⟨k, rfl⟩ : ∃ k, a = k + 1 := ⟨a - 1, by omega⟩
  exact tail_at_zero _ k

theorem G_one (a b : ℕ) (hb : 0 < b) : G a b 1 = 1 := tail_at_one _ _ (by omega)

theorem betaCdf_cast (a b : ℕ) (x : ℚ) (h0 : 0 ≤ x) (h1 : x ≤ 1) :
    ((betaCdf a b x : ℚ) : ℝ) = G a b (x : ℝ) := tailQ_cast _ _ x h0 h1

theorem dens_cast (a b : ℕ) (x : ℚ) : ((dens a b x : ℚ) : ℝ) = g (a - 1) (b - 1) (x : ℝ) := by
  unfold dens g; push_cast; ring

theorem minQ_cast (p q : ℚ) : ((minQ p q : ℚ) : ℝ) = min (p : ℝ) (q : ℝ) :=
  (congrArg _ (min_def p q).symm).trans (Rat.cast_min p q)

theorem betaNorm_eq (a b : ℕ) : betaNorm a b = (a + b - 1) * Nat.choose (a + b - 2) (a - 1) := by
  unfold betaNorm; rw [choose_eq]

theorem dtail_eq_g (a b : ℕ) (ha : 0 < a) (hb : 0 < b) (s : ℝ) :
    dtail (a + b - 1) a s = (betaNorm a b : ℝ) * g (a - 1) (b - 1) s := by
  obtain ⟨k, rfl⟩ := Nat.exists_eq_succ_of_ne_zero ha.ne'
  rw [dtail_succ_eq, betaNorm_eq, show k + 1 + b - 1 - 1 - k = b - 1 by omega]
  show ((k + 1 + b - 1 : ℕ) : ℝ) * (Nat.choose (k + 1 + b - 2) k : ℝ) * s ^ k * (1 - s) ^ (b - 1)
    = (((k + 1 + b - 1) * Nat.choose (k + 1 + b - 2) k : ℕ) : ℝ) * (s ^ k * (1 - s) ^ (b - 1))
  rw [Nat.cast_mul]; ring

theorem betaNorm_pos (a b : ℕ) (ha : 0 < a) (hb : 0 < b) : 0 < betaNorm a b := by
  rw [betaNorm_eq]
  apply Nat.mul_pos (by omega)
  exact Nat.choose_pos (by omega)

theorem continuous_G (a b : ℕ) : Continuous (G a b) := continuous_tail _ _

theorem G_strictMonoOn (a b : ℕ) (ha : 0 < a) (hb : 0 < b) : StrictMonoOn (G a b) (Icc 0 1) := by
  refine strictMonoOn_of_deriv_pos (convex_Icc 0 1) (continuous_G a b).continuousOn ?_
  intro x hx
  rw [interior_Icc] at hx
  have hd : deriv (G a b) x = dtail (a + b - 1) a x := (hasDerivAt_tail (a + b - 1) a x).deriv
  rw [hd, dtail_eq_g a b ha hb]
  exact mul_pos (Nat.cast_pos.2 (betaNorm_pos a b ha hb)) (mul_pos (pow_pos hx.1 _) (pow_pos (sub_pos.2 hx.2) _))

theorem mass_eq_integral (a b : ℕ) (ha : 0 < a) (hb : 0 < b) (u v : ℝ) :
    G a b v - G a b u = ∫ s in u..v, (betaNorm a b : ℝ) * g (a - 1) (b - 1) s := by
  unfold G
  rw [← integral_dtail]
  exact intervalIntegral.integral_congr fun s _ => dtail_eq_g a b ha hb s

theorem mass_eq_mul_integral (a b : ℕ) (ha : 0 < a) (hb : 0 < b) (u v : ℝ) :
    G a b v - G a b u = (betaNorm a b : ℝ) * ∫ s in u..v, g (a - 1) (b - 1) s := by
  rw [mass_eq_integral a b ha hb, intervalIntegral.integral_const_mul]

theorem modeQ_cast (a b : ℕ) (ha : 0 < a) (hb : 0 < b) : ((modeQ a b : ℚ) : ℝ) = mode (a - 1) (b - 1) := by
  rw [modeQ, mode, Rat.cast_div, Rat.cast_natCast, Rat.cast_natCast, show a + b - 2 = (a - 1) + (b - 1) by omega,
    Nat.cast_add]

/-- the certificate over `ℝ`: `unimodal_level_bound` for the density `g (a−1) (b−1)`, in terms of the distribution
function and in the shape of the checker's last clause (the normalising constant enters once, here) -/
theorem cert_bound (a b : ℕ) (ha : 0 < a) (hb : 0 < b) (hab : 2 < a + b) {x1 x2 y2 y1 t : ℝ}
    (h10 : 0 ≤ x1) (h12 : x1 ≤ x2) (h2m : x2 ≤ mode (a - 1) (b - 1)) (hm2 : mode (a - 1) (b - 1) ≤ y2)
    (h21 : y2 ≤ y1) (h11 : y1 ≤ 1)
    (hA : x1 ≤ 0 ∨ g (a - 1) (b - 1) x1 ≤ t) (hB : 1 ≤ y1 ∨ g (a - 1) (b - 1) y1 ≤ t)
    (hD1 : t ≤ g (a - 1) (b - 1) x2) (hD2 : t ≤ g (a - 1) (b - 1) y2)
    (u v : ℝ) (hu : 0 ≤ u) (huv : u ≤ v) (hv : v ≤ 1) :
    t * (y2 - x2) + min (g (a - 1) (b - 1) x1) t * (x2 - x1) + min (g (a - 1) (b - 1) y1) t * (y1 - y2)
        - (G a b y1 - G a b x1 - (G a b v - G a b u)) / betaNorm a b
      ≤ t * (v - u) := by
  have hpos : 0 < (a - 1) + (b - 1) := by omega
  have key := unimodal_level_bound (g_continuous (a - 1) (b - 1)) (g_mono _ _ hpos) (g_anti _ _ hpos)
    h10 h12 h2m hm2 h21 h11 hA hB hD1 hD2 u v hu huv hv
  rw [mass_eq_mul_integral a b ha hb, mass_eq_mul_integral a b ha hb, ← mul_sub,
    mul_div_cancel_left₀ _ (Nat.cast_ne_zero.2 (betaNorm_pos a b ha hb).ne')]
  linarith only [key]

/-- **soundness of the highest-density certificate**: if `hdiCertOK` accepts, then every interval
`[u,v] ⊆ [0,1]` whose Beta(a,b) mass is at least that of `[x,y]` has length at least `(y − x) − slack`. -/
theorem hdiCertOK_sound (a b : ℕ) (x y x1 x2 y2 y1 t slack : ℚ)
    (h : hdiCertOK a b x y x1 x2 y2 y1 t slack = true)
    (u v : ℝ) (hu : 0 ≤ u) (huv : u ≤ v) (hv : v ≤ 1)
    (hmass : G a b (y : ℝ) - G a b (x : ℝ) ≤ G a b v - G a b u) :
    ((y : ℝ) - (x : ℝ)) - (slack : ℝ) ≤ v - u := by
  simp only [hdiCertOK, Bool.and_eq_true, Bool.or_eq_true, decide_eq_true_eq] at h
  -- the pattern follows the order of the 21 conjuncts of `hdiCertOK`; the two clauses tying `x₂ = x₁`, `y₂ = y₁` to
  -- `f > t` are not needed
  obtain ⟨⟨⟨⟨⟨⟨⟨⟨⟨⟨⟨⟨⟨⟨⟨⟨⟨⟨⟨⟨ha, hb⟩, hab⟩, hx0⟩, hx1⟩, hy0⟩, hy1⟩, h10⟩, h12⟩, h2m⟩, hm2⟩, h21⟩, h11⟩, ht⟩,
    hA⟩, hB⟩, -⟩, -⟩, hD1⟩, hD2⟩, hfin⟩ := h
  have hy10 : 0 ≤ y1 := h10.trans (h12.trans (h2m.trans (hm2.trans h21)))
  have hx11 : x1 ≤ 1 := h12.trans (h2m.trans (hm2.trans (h21.trans h11)))
  have hmode := modeQ_cast a b ha hb
  have key := cert_bound a b ha hb hab (x1 := x1) (x2 := x2) (y2 := y2) (y1 := y1) (t := t)
    (by exact_mod_cast h10) (by exact_mod_cast h12) (by rw [← hmode]; exact_mod_cast h2m)
    (by rw [← hmode]; exact_mod_cast hm2) (by exact_mod_cast h21) (by exact_mod_cast h11)
    (by rw [← dens_cast]; exact_mod_cast hA) (by rw [← dens_cast]; exact_mod_cast hB)
    (by rw [← dens_cast]; exact_mod_cast hD1) (by rw [← dens_cast]; exact_mod_cast hD2) u v hu huv hv
  have fin := (Rat.cast_le (K := ℝ)).2 hfin
  push_cast [minQ_cast, dens_cast, betaCdf_cast a b y1 hy10 h11, betaCdf_cast a b x1 h10 hx11,
    betaCdf_cast a b y hy0 hy1, betaCdf_cast a b x hx0 hx1] at fin
  -- `[u,v]` has at least the mass of `[x,y]`, so the checker's clause is at most `cert_bound`'s left side
  exact le_of_mul_le_mul_left (fin.trans ((sub_le_sub_left
    (div_le_div_of_nonneg_right (sub_le_sub_left hmass _) (Nat.cast_nonneg _)) _).trans key))
    (by exact_mod_cast ht : (0:ℝ) < t)

theorem hdiCheck_sound (a b : ℕ) (x y slack w0 : ℚ) (h : hdiCheck a b x y slack w0 = true)
    (u v : ℝ) (hu : 0 ≤ u) (huv : u ≤ v) (hv : v ≤ 1)
    (hmass : G a b (y : ℝ) - G a b (x : ℝ) ≤ G a b v - G a b u) :
    ((y : ℝ) - (x : ℝ)) - (slack : ℝ) ≤ v - u := by
  unfold hdiCheck at h
  rw [Bool.or_eq_true, decide_eq_true_eq] at h
  rcases h with h | h
  · have : ((y:ℝ) - x) ≤ slack := by exact_mod_cast h
    linarith
  · split at h
    · exact hdiCertOK_sound a b x y x _ _ y _ slack h u v hu huv hv hmass
    · exact absurd h (by simp)

theorem absQ_cast (q : ℚ) : ((absQ q : ℚ) : ℝ) = |(q : ℝ)| :=
  (congrArg _ (Opda.Small.ite_neg_eq_abs q)).trans (Rat.cast_abs q)

theorem etCheck_sound (a b : ℕ) (c x y tol : ℚ) (h : etCheck a b c x y tol = true) :
    0 ≤ (x : ℝ) ∧ (x : ℝ) ≤ y ∧ (y : ℝ) ≤ 1
      ∧ |G a b y - G a b x - c| ≤ tol ∧ |G a b x - (1 - G a b y)| ≤ tol := by
  simp only [etCheck, Bool.and_eq_true, decide_eq_true_eq] at h
  obtain ⟨⟨⟨⟨h0, hxy⟩, h1⟩, hm⟩, ht⟩ := h
  have hm' := (Rat.cast_le (K := ℝ)).2 hm
  have ht' := (Rat.cast_le (K := ℝ)).2 ht
  push_cast [absQ_cast, betaCdf_cast a b y (h0.trans hxy) h1, betaCdf_cast a b x h0 (hxy.trans h1)] at hm' ht'
  exact ⟨by exact_mod_cast h0, by exact_mod_cast hxy, by exact_mod_cast h1, hm', ht'⟩

/-- the exact bisection keeps in its bracket any real `y` that every midpoint decision puts on the right side -/
theorem partnerLoop_brackets (a b : ℕ) (t : ℚ) (incr : Bool) (y : ℝ) (steps : ℕ) :
    ∀ lo hi : ℚ, lo ≤ hi → (lo : ℝ) ≤ y → y ≤ hi →
      (∀ z : ℚ, lo ≤ z → z ≤ hi → if (decide (dens a b z < t) == incr) = true then (z : ℝ) ≤ y else y ≤ z) →
      lo ≤ (partnerLoop a b t incr steps lo hi).1 ∧ (partnerLoop a b t incr steps lo hi).2 ≤ hi
        ∧ ((partnerLoop a b t incr steps lo hi).1 : ℝ) ≤ y ∧ y ≤ (partnerLoop a b t incr steps lo hi).2 := by
  induction steps with
  | zero => intro lo hi _ h1 h2 _; exact ⟨le_rfl, le_rfl, h1, h2⟩
  | succ s ih =>
    intro lo hi h h1 h2 hz
    have m1 : lo ≤ (lo + hi) / 2 := by linarith
    have m2 : (lo + hi) / 2 ≤ hi := by linarith
    have hm := hz _ m1 m2
    simp only [partnerLoop]
    split_ifs at hm ⊢ with hc
    · obtain ⟨p1, p2, p3⟩ := ih _ hi m2 hm h2 fun z hz1 hz2 => hz z (m1.trans hz1) hz2
      exact ⟨m1.trans p1, p2, p3⟩
    · obtain ⟨p1, p2, p3⟩ := ih lo _ m1 h1 hm fun z hz1 hz2 => hz z hz1 (hz2.trans m2)
      exact ⟨p1, p2.trans m2, p3⟩

/-- … hence, for a bracket inside `[0,1]`, the exact distribution function at the two ends of the final bracket encloses
`G y` — the part the two sides of `hdCoverageBracket` share -/
theorem partnerLoop_cdf_brackets (a b : ℕ) (t : ℚ) (incr : Bool) (y : ℝ) (steps : ℕ) (lo hi : ℚ) (h0 : 0 ≤ lo)
    (h : lo ≤ hi) (h1 : hi ≤ 1) (hlo : (lo : ℝ) ≤ y) (hhi : y ≤ hi)
    (hsep : ∀ z : ℚ, lo ≤ z → z ≤ hi → if (decide (dens a b z < t) == incr) = true then (z : ℝ) ≤ y else y ≤ z) :
    ((betaCdf a b (partnerLoop a b t incr steps lo hi).1 : ℚ) : ℝ) ≤ G a b y
      ∧ G a b y ≤ ((betaCdf a b (partnerLoop a b t incr steps lo hi).2 : ℚ) : ℝ) := by
  obtain ⟨i1, i2, i3, i4⟩ := partnerLoop_brackets a b t incr y steps lo hi h hlo hhi hsep
  have hl0 := h0.trans i1
  have hh1 := i2.trans h1
  have hlh := Rat.cast_le.1 (i3.trans i4)
  rw [betaCdf_cast a b _ hl0 (hlh.trans hh1), betaCdf_cast a b _ (hl0.trans hlh) hh1]
  exact ⟨G_mono a b _ _ (Rat.cast_nonneg.2 hl0) i3 (hhi.trans (by exact_mod_cast h1)),
    G_mono a b _ _ ((Rat.cast_nonneg.2 h0).trans hlo) i4 (by exact_mod_cast hh1)⟩

theorem dens_lt_iff (a b : ℕ) (z x : ℚ) :
    dens a b z < dens a b x ↔ g (a - 1) (b - 1) (z : ℝ) < g (a - 1) (b - 1) (x : ℝ) := by
  rw [← dens_cast, ← dens_cast, Rat.cast_lt]

/-- **soundness of `beta.hdcov`, `x` left of the mode**: if `y*` is the right end of the level set
`{f ≥ f x}` (density `≥ f x` on `[mode, y*]`, `< f x` beyond), the exact bracket returned by
`hdCoverageBracket` contains `G y* − G x`, the coverage of the smallest highest-density interval
containing `x`. -/
theorem hdCoverageBracket_sound_left (a b : ℕ) (x : ℚ) (steps : ℕ)
    (hx0 : 0 ≤ x) (hxm : x < modeQ a b) (ystar : ℝ)
    (hy0 : ((modeQ a b : ℚ) : ℝ) ≤ ystar) (hy1 : ystar ≤ 1)
    (hin : ∀ s : ℝ, ((modeQ a b : ℚ) : ℝ) ≤ s → s ≤ ystar → g (a - 1) (b - 1) (x : ℝ) ≤ g (a - 1) (b - 1) s)
    (hout : ∀ s : ℝ, ystar < s → s ≤ 1 → g (a - 1) (b - 1) s < g (a - 1) (b - 1) (x : ℝ)) :
    (((hdCoverageBracket a b x steps).1 : ℚ) : ℝ) ≤ G a b ystar - G a b (x : ℝ)
      ∧ G a b ystar - G a b (x : ℝ) ≤ (((hdCoverageBracket a b x steps).2 : ℚ) : ℝ) := by
  have hm1 : modeQ a b ≤ 1 := by exact_mod_cast hy0.trans hy1
  have hm0 : 0 ≤ modeQ a b := hx0.trans hxm.le
  obtain ⟨c1, c2⟩ := partnerLoop_cdf_brackets a b (dens a b x) false ystar steps (modeQ a b) 1 hm0 hm1 le_rfl hy0
    (by exact_mod_cast hy1) fun z hz1 hz2 => by
      split_ifs with hc
      · simp only [beq_false, Bool.not_eq_true', decide_eq_false_iff_not, dens_lt_iff] at hc
        exact not_lt.1 fun h => hc (hout z h (by exact_mod_cast hz2))
      · simp only [beq_false, Bool.not_eq_true', decide_eq_false_iff_not, not_not, dens_lt_iff] at hc
        exact not_lt.1 fun h => (hin z (by exact_mod_cast hz1) h.le).not_gt hc
  simp only [hdCoverageBracket, if_pos hxm]
  push_cast [betaCdf_cast a b x hx0 (hxm.le.trans hm1)]
  exact ⟨sub_le_sub_right c1 _, sub_le_sub_right c2 _⟩

/-- **soundness of `beta.hdcov`, `x` right of the mode**: the mirror image of `hdCoverageBracket_sound_left`, for the
left end `y*` of the level set -/
theorem hdCoverageBracket_sound_right (a b : ℕ) (x : ℚ) (steps : ℕ)
    (hx1 : x ≤ 1) (hmx : modeQ a b < x) (ystar : ℝ)
    (hy0 : 0 ≤ ystar) (hy1 : ystar ≤ ((modeQ a b : ℚ) : ℝ))
    (hin : ∀ s : ℝ, ystar ≤ s → s ≤ ((modeQ a b : ℚ) : ℝ) → g (a - 1) (b - 1) (x : ℝ) ≤ g (a - 1) (b - 1) s)
    (hout : ∀ s : ℝ, 0 ≤ s → s < ystar → g (a - 1) (b - 1) s < g (a - 1) (b - 1) (x : ℝ)) :
    (((hdCoverageBracket a b x steps).1 : ℚ) : ℝ) ≤ G a b (x : ℝ) - G a b ystar
      ∧ G a b (x : ℝ) - G a b ystar ≤ (((hdCoverageBracket a b x steps).2 : ℚ) : ℝ) := by
  have hm0 : 0 ≤ modeQ a b := by exact_mod_cast hy0.trans hy1
  have hm1 : modeQ a b ≤ 1 := hmx.le.trans hx1
  obtain ⟨c1, c2⟩ := partnerLoop_cdf_brackets a b (dens a b x) true ystar steps 0 (modeQ a b) le_rfl hm0 hm1
    (by exact_mod_cast hy0) hy1 fun z hz1 hz2 => by
      split_ifs with hc
      · simp only [beq_true, decide_eq_true_eq, dens_lt_iff] at hc
        exact not_lt.1 fun h => (hin z h.le (by exact_mod_cast hz2)).not_gt hc
      · simp only [beq_true, decide_eq_true_eq, dens_lt_iff] at hc
        exact not_lt.1 fun h => hc (hout z (by exact_mod_cast hz1) h)
  simp only [hdCoverageBracket, if_neg (not_lt.2 hmx.le), if_pos hmx]
  push_cast [betaCdf_cast a b x (hm0.trans hmx.le) hx1]
  exact ⟨sub_le_sub_left c2 _, sub_le_sub_left c1 _⟩

#print axioms hdiCertOK_sound
#print axioms hdiCheck_sound
#print axioms etCheck_sound
#print axioms hdCoverageBracket_sound_left
#print axioms hdCoverageBracket_sound_right
end Opda.BetaCheck

import Mathlib.Topology.Order.Basic
import Mathlib.Topology.Algebra.Order.Field
import Mathlib.Topology.Order.LeftRightNhds
import Mathlib.Topology.Instances.Real.Lemmas
import Mathlib.Tactic

/-!
C01-T1: a step band given by level tables `L`, `U` contains a continuous CDF `F` for all `t`
iff the `n` order-statistic inequalities `L (i+1) ≤ F (y i) ≤ U i` hold.
`y 0 < y 1 < … < y (n-1)` are the order statistics (0-based).  `IsCount n y t k` says that
`k` is the number of sample points `≤ t`; the band takes the values `L k`, `U k` there
(this is what C02-T1 proves about the code's `lo.cdf`, `hi.cdf`).
-/
namespace Opda.Band
open Filter Topology

def IsCount (n : ℕ) (y : ℕ → ℝ) (t : ℝ) (k : ℕ) : Prop :=
  k ≤ n ∧ (∀ j, j < k → y j ≤ t) ∧ (∀ j, k ≤ j → j < n → t < y j)

theorem isCount_self {n : ℕ} {y : ℕ → ℝ} (hy : ∀ i j, i < j → j < n → y i < y j) {i : ℕ} (hi : i < n) :
    IsCount n y (y i) (i + 1) :=
  ⟨hi, fun j hj => (Nat.lt_succ_iff.mp hj).eq_or_lt.elim (fun e => e ▸ le_rfl) fun h => (hy j i h hi).le,
    fun j hj hjn => hy i j hj hjn⟩

theorem isCount_of_lt {n : ℕ} {y : ℕ → ℝ} (hy : ∀ i j, i < j → j < n → y i < y j) {i : ℕ} (hi : i < n) {t : ℝ}
    (h1 : ∀ j, j < i → y j ≤ t) (h2 : t < y i) : IsCount n y t i :=
  ⟨hi.le, h1, fun j hj hjn => h2.trans_le (hj.eq_or_lt.elim (fun e => e ▸ le_rfl) fun h => (hy i j h hjn).le)⟩

theorem band_contains_iff_box (n : ℕ) (y : ℕ → ℝ) (hy : ∀ i j, i < j → j < n → y i < y j)
    (L U : ℕ → ℝ) (F : ℝ → ℝ) (hmono : Monotone F) (hcont : Continuous F)
    (h0 : ∀ t, 0 ≤ F t) (h1 : ∀ t, F t ≤ 1) (hL0 : L 0 ≤ 0) (hUn : 1 ≤ U n) :
    (∀ t k, IsCount n y t k → L k ≤ F t ∧ F t ≤ U k)
      ↔ (∀ i, i < n → L (i+1) ≤ F (y i) ∧ F (y i) ≤ U i) := by
  constructor
  · intro h i hi
    refine ⟨(h _ _ (isCount_self hy hi)).1, ?_⟩
    -- upper level: the count is `i` on a window `(lo, y i)`, so `F ≤ U i` there, and at `y i` by continuity
    obtain ⟨lo, hlo, hbelow⟩ : ∃ lo, lo < y i ∧ ∀ j, j < i → y j ≤ lo := by
      rcases i with _ | i
      · exact ⟨y 0 - 1, sub_one_lt _, fun j hj => absurd hj j.not_lt_zero⟩
      · exact ⟨y i, hy i (i + 1) i.lt_succ_self hi, fun j hj =>
          (Nat.lt_succ_iff.mp hj).eq_or_lt.elim (fun e => e ▸ le_rfl) fun h => (hy j i h (i.lt_succ_self.trans hi)).le⟩
    have hwin : ∀ t ∈ Set.Ioo lo (y i), F t ≤ U i := fun t ht =>
      (h t i (isCount_of_lt hy hi (fun j hj => (hbelow j hj).trans ht.1.le) ht.2)).2
    exact le_of_tendsto ((hcont.tendsto (y i)).mono_left nhdsWithin_le_nhds)
      (Filter.mem_of_superset (Ioo_mem_nhdsLT hlo) hwin)
  · intro h t k ⟨hkn, hle, hgt⟩
    constructor
    · rcases k with _ | k
      · exact hL0.trans (h0 t)
      · exact (h k hkn).1.trans (hmono (hle k k.lt_succ_self))
    · rcases hkn.lt_or_eq with hlt | rfl
      · exact (hmono (hgt k le_rfl hlt).le).trans (h k hlt).2
      · exact (h1 t).trans hUn

#print axioms band_contains_iff_box

/-- the count relation is functional: for strictly increasing `y` there is exactly one `k` -/
theorem isCount_unique (n : ℕ) (y : ℕ → ℝ) (t : ℝ) (k k' : ℕ)
    (h : IsCount n y t k) (h' : IsCount n y t k') : k = k' := by
  obtain ⟨hk, hle, hgt⟩ := h
  obtain ⟨hk', hle', hgt'⟩ := h'
  rcases lt_trichotomy k k' with hlt | rfl | hlt
  · exact absurd (hle' k hlt) (hgt k le_rfl (hlt.trans_le hk')).not_ge
  · rfl
  · exact absurd (hle k' hlt) (hgt' k' le_rfl (hlt.trans_le hk)).not_ge

/-- C01-T2: for the DKW / KS tables `L k = k/n − ε`, `U k = k/n + ε` (before clipping; clipping is
vacuous because `0 ≤ F ≤ 1`), the box says that the Kolmogorov distance is at most ε, written
as the `2n` one-sided inequalities at the order statistics. -/
theorem dkw_box (n : ℕ) (hn : 0 < n) (y : ℕ → ℝ) (F : ℝ → ℝ) (ε : ℝ) :
    (∀ i, i < n → ((i+1 : ℕ) : ℝ)/n - ε ≤ F (y i) ∧ F (y i) ≤ ((i : ℕ) : ℝ)/n + ε)
      ↔ (∀ i, i < n → ((i+1 : ℕ) : ℝ)/n - F (y i) ≤ ε ∧ F (y i) - ((i : ℕ) : ℝ)/n ≤ ε) :=
  forall₂_congr fun i _ => and_congr sub_le_comm sub_le_iff_le_add'.symm

end Opda.Band

import OpdaModel.Band
import OpdaProofs.EmpMore
import Mathlib.Data.List.GetD
import Mathlib.Data.List.Sort
import Mathlib.Tactic
/-!
The band distributions built by `confidence_bands`, end to end on the model.  First on lists: the weight that the
first differences of the levels, placed on a sorted list, put on `(−∞, t]` telescopes to one level (`band_weightLE`).
Then `cdf (support ⊥ ⊤ a b (bandObs a b ys levels)) t` is the level indexed by the number `extCount a b ys t` of extended
sample points `≤ t`.  Everything else about a band follows from the value of that count and the three equations of
`levelAt`: level-wise ordered tables give ordered bands, and sample, bounds and query enter through the count only.
In between: the model's insertion sort `Band.sort` is `List.insertionSort` (sorted, a permutation, commutes with
strictly increasing maps), which the driver theorems of the empirical distribution use as well.
-/
namespace Opda.Band
open Opda.Emp
variable {E α : Type} [LinearOrder E] [Field α] [LinearOrder α] [IsStrictOrderedRing α]

/-- the sortedness `band_weightLE` is stated with; on a list it is `List.Pairwise (· ≤ ·)` (`wsorted_of_pairwise`), which is
how every sorted list here is obtained -/
def WSorted : List E → Prop
  | [] => True
  | u :: rest => (∀ v ∈ rest, u ≤ v) ∧ WSorted rest

/-- number of leading entries ≤ t (for a sorted list: the number of entries ≤ t) -/
def countLE (t : E) : List E → Nat
  | [] => 0
  | u :: rest => if u ≤ t then 1 + countLE t rest else 0

theorem weightLE_zip_sorted (t : E) (s : List E) (d : List α) (hs : WSorted s) :
    weightLE t (s.zip d) = (d.take (countLE t s)).sum := by
  induction s generalizing d with
  | nil => rw [List.zip_nil_left, countLE, List.take_zero]; rfl
  | cons u rest ih =>
    obtain ⟨hle, hs'⟩ := hs
    cases d with
    | nil => rw [List.zip_nil_right, List.take_nil]; rfl
    | cons x d' =>
      by_cases hu : u ≤ t
      · rw [List.zip_cons_cons, weightLE, if_pos hu, countLE, if_pos hu, Nat.add_comm, List.take_succ_cons,
          List.sum_cons, ih d' hs']
      · rw [List.zip_cons_cons, weightLE, if_neg hu, countLE, if_neg hu, List.take_zero, zero_add]
        exact weightLE_eq_zero_of_all_gt t _ fun p hp =>
          lt_of_lt_of_le (not_le.mp hu) (hle p.1 (List.of_mem_zip hp).1)

/-- telescoping; the default of `getD`: reading past the end gives the last entry, 1 -/
theorem sum_take_diffsAux (prev : α) (levels : List α) (k : Nat) :
    ((diffsAux prev levels).take k).sum = (prev :: (levels ++ [1])).getD k 1 - prev := by
  induction levels generalizing prev k with
  | nil =>
    rcases k with _ | k
    · exact (sub_self prev).symm
    · rw [diffsAux, List.take_succ_cons, List.take_nil, List.sum_cons, List.sum_nil, add_zero]
      cases k <;> rfl
  | cons l rest ih =>
    cases k with
    | zero => exact (sub_self prev).symm
    | succ k =>
      rw [diffsAux, List.take_succ_cons, List.sum_cons, ih l k, List.getD_cons_succ, List.cons_append]; ring

theorem total_zip (s : List E) (d : List α) : total (s.zip d) = (d.take s.length).sum := by
  induction s generalizing d with
  | nil => cases d <;> rfl
  | cons u rest ih =>
    cases d with
    | nil => rfl
    | cons x d' => rw [List.zip_cons_cons, total, ih, List.length_cons, List.take_succ_cons, List.sum_cons]

theorem length_diffsAux (prev : α) (levels : List α) : (diffsAux prev levels).length = levels.length + 1 := by
  induction levels generalizing prev with
  | nil => rfl
  | cons l rest ih => simp [diffsAux, ih]

theorem countLE_le_length (t : E) (s : List E) : countLE t s ≤ s.length := by
  induction s with
  | nil => simp [countLE]
  | cons u rest ih => simp only [countLE, List.length_cons]; split_ifs <;> omega

/-- the level a band assigns to a point with `k` extended sample points at or below it -/
def levelAt (k : Nat) (levels : List α) : α :=
  if k = 0 then 0 else if k ≤ levels.length then levels.getD (k - 1) 0 else 1

theorem levelAt_zero (L : List α) : levelAt 0 L = 0 := if_pos rfl

theorem levelAt_succ {k : ℕ} (L : List α) (h : k < L.length) : levelAt (k + 1) L = L.getD k 0 := by
  rw [levelAt, if_neg k.succ_ne_zero, if_pos (Nat.succ_le_of_lt h), Nat.add_sub_cancel]

theorem levelAt_of_length_lt {k : ℕ} (L : List α) (h : L.length < k) : levelAt k L = 1 := by
  rw [levelAt, if_neg (Nat.ne_of_gt (Nat.zero_lt_of_lt h)), if_neg (Nat.not_le.mpr h)]

theorem levelAt_mono (k : Nat) (L U : List α) (hlen : L.length = U.length)
    (h : ∀ i, L.getD i 0 ≤ U.getD i 0) : levelAt k L ≤ levelAt k U := by
  unfold levelAt
  rw [hlen]
  split_ifs
  exacts [le_rfl, h _, le_rfl]

theorem levelAt_eq_getD (k : ℕ) (levels : List α) : levelAt k levels = (0 :: (levels ++ [1])).getD k 1 := by
  rcases k with _ | k
  · rfl
  · rw [levelAt, List.getD_cons_succ, if_neg k.succ_ne_zero, Nat.add_sub_cancel]
    split_ifs with hk
    · rw [List.getD_append _ _ _ _ hk, List.getD_eq_getElem _ _ hk, List.getD_eq_getElem _ _ hk]
    · rw [List.getD_append_right _ _ _ _ (Nat.le_of_not_lt hk)]
      cases k - levels.length <;> rfl

theorem weightLE_zip_diffs (t : E) (s : List E) (levels : List α) (hs : WSorted s) :
    weightLE t (s.zip (diffs levels)) = levelAt (countLE t s) levels := by
  rw [weightLE_zip_sorted t s _ hs, diffs, sum_take_diffsAux, sub_zero, levelAt_eq_getD]

/-- **C02-T1 (list form)**: the weight a band distribution puts on `(−∞, t]` is the level indexed by
the number of extended sample points `≤ t` (minus one): 0 if none, `levels[k−1]` for
`1 ≤ k ≤ |levels|`, and 1 beyond. `s` is the sorted extended sample `[a] ++ ys ++ [b]`.
(`weightLE_zip_diffs` with `levelAt` written out.) -/
theorem band_weightLE (t : E) (s : List E) (levels : List α) (hs : WSorted s) :
    weightLE t (s.zip (diffs levels)) =
      (if countLE t s = 0 then 0
       else if countLE t s ≤ levels.length then levels.getD (countLE t s - 1) 0 else 1) := by
  rw [weightLE_zip_diffs t s levels hs, levelAt]

#print axioms band_weightLE

theorem insertSorted_eq (v : E) (l : List E) : insertSorted v l = l.orderedInsert (· ≤ ·) v := by
  induction l with
  | nil => rfl
  | cons u rest ih => simp only [insertSorted, List.orderedInsert, ih]

theorem sort_eq_insertionSort (l : List E) : sort l = l.insertionSort (· ≤ ·) := by
  induction l with
  | nil => rfl
  | cons v rest ih =>
    show insertSorted v (sort rest) = _
    rw [ih, insertSorted_eq]; rfl

theorem sort_map {E' : Type} [LinearOrder E'] (g : E → E') (hg : StrictMono g) (l : List E) :
    sort (l.map g) = (sort l).map g := by
  rw [sort_eq_insertionSort, sort_eq_insertionSort]
  exact (List.map_insertionSort (· ≤ ·) (· ≤ ·) g l fun _ _ _ _ => hg.le_iff_le.symm).symm

theorem wsorted_of_pairwise : ∀ l : List E, l.Pairwise (· ≤ ·) → WSorted l
  | [], _ => trivial
  | u :: rest, h => by
    rw [List.pairwise_cons] at h
    exact ⟨h.1, wsorted_of_pairwise rest h.2⟩

theorem pairwise_sort (l : List E) : (sort l).Pairwise (· ≤ ·) := by
  rw [sort_eq_insertionSort]; exact List.pairwise_insertionSort _ l

theorem sort_perm_self (l : List E) : (sort l).Perm l := by
  rw [sort_eq_insertionSort]; exact List.perm_insertionSort _ l

theorem wsorted_sort (l : List E) : WSorted (sort l) := wsorted_of_pairwise _ (pairwise_sort l)

theorem length_sort (l : List E) : (sort l).length = l.length := (sort_perm_self l).length_eq

theorem countLE_eq_countP (t : E) (s : List E) (hs : WSorted s) : countLE t s = s.countP (· ≤ t) := by
  induction s with
  | nil => rfl
  | cons u rest ih =>
    by_cases hu : u ≤ t
    · rw [List.countP_cons_of_pos (by simpa using hu), countLE, if_pos hu, ih hs.2, Nat.add_comm]
    · rw [List.countP_cons_of_neg (by simpa using hu), countLE, if_neg hu, eq_comm, List.countP_eq_zero]
      exact fun v hv => by simpa using lt_of_lt_of_le (not_le.mp hu) (hs.1 v hv)

theorem countLE_sort (t : E) (l : List E) : countLE t (sort l) = l.countP (· ≤ t) := by
  rw [countLE_eq_countP t _ (wsorted_sort l)]
  exact (sort_perm_self l).countP_eq _

def extCount (a b : E) (ys : List E) (t : E) : ℕ := (a :: (ys ++ [b])).countP (· ≤ t)

theorem extCount_eq_add (a b : E) (ys : List E) (t : E) :
    extCount a b ys t = (if a ≤ t then 1 else 0) + ys.countP (fun v => decide (v ≤ t)) + (if b ≤ t then 1 else 0) := by
  rw [extCount, List.countP_cons, List.countP_append, List.countP_singleton]
  simp only [decide_eq_true_eq]
  omega

theorem extCount_eq_zero {a b : E} {ys : List E} {t : E} (ha : t < a) (hys : ∀ y ∈ ys, t < y) (hb : t < b) :
    extCount a b ys t = 0 := by
  rw [extCount_eq_add, if_neg ha.not_ge, if_neg hb.not_ge, List.countP_eq_zero.mpr fun y hy => by simpa using hys y hy]

theorem extCount_eq_length {a b : E} {ys : List E} {t : E} (ha : a ≤ t) (hys : ∀ y ∈ ys, y ≤ t) (hb : b ≤ t) :
    extCount a b ys t = ys.length + 2 := by
  rw [extCount_eq_add, if_pos ha, if_pos hb, List.countP_eq_length.mpr fun y hy => by simpa using hys y hy]
  omega

theorem extCount_inside {a b : E} (ys : List E) {t : E} (ha : a ≤ t) (hb : t < b) :
    extCount a b ys t = ys.countP (fun v => decide (v ≤ t)) + 1 := by
  rw [extCount_eq_add, if_pos ha, if_neg hb.not_ge]; omega

theorem extCount_perm (a b : E) {ys ys' : List E} (t : E) (hp : ys.Perm ys') :
    extCount a b ys t = extCount a b ys' t := ((hp.append_right [b]).cons a).countP_eq _

theorem extCount_map {E' : Type} [LinearOrder E'] (g : E → E') (hg : StrictMono g) (a b : E) (ys : List E) (t : E) :
    extCount (g a) (g b) (ys.map g) (g t) = extCount a b ys t := by
  have : g a :: (ys.map g ++ [g b]) = (a :: (ys ++ [b])).map g := by simp
  rw [extCount, this, List.countP_map]
  simp only [Function.comp_def, hg.le_iff_le, extCount]

theorem total_zip_diffs (s : List E) (levels : List α) (hlen : s.length = levels.length + 1) :
    total (s.zip (diffs levels)) = 1 := by
  rw [total_zip, diffs, sum_take_diffsAux, sub_zero, ← levelAt_eq_getD, hlen, levelAt_of_length_lt _ (Nat.lt_succ_self _)]

variable [OrderBot E] [OrderTop E]

/-- **C02-T1**: the cdf of a band distribution at `t` is the level indexed by the number `k` of extended sample
points `≤ t`: `0` if `k = 0` (below `a`), `levels[k-1]` for `1 ≤ k ≤ n+1`, `1` from `b` on. For every sample (ties
allowed), every bound pair and every level table with one level per point of `[a] ++ ys`. -/
theorem band_cdf (a b : E) (ys : List E) (levels : List α) (t : E) (hlen : levels.length = ys.length + 1) :
    cdf (support ⊥ ⊤ a b (bandObs a b ys levels)) t
      = levelAt (countLE t (sort (a :: (ys ++ [b])))) levels := by
  have hl : (sort (a :: (ys ++ [b]))).length = levels.length + 1 := by
    rw [length_sort, List.length_cons, List.length_append, List.length_singleton, hlen]
  rw [cdf_support, bandObs, total_zip_diffs _ levels hl, div_one, weightLE_zip_diffs t _ levels (wsorted_sort _)]

theorem band_cdf_extCount (a b : E) (ys : List E) (levels : List α) (t : E) (hlen : levels.length = ys.length + 1) :
    cdf (support ⊥ ⊤ a b (bandObs a b ys levels)) t = levelAt (extCount a b ys t) levels := by
  rw [band_cdf a b ys levels t hlen, countLE_sort, extCount]

/-- **bracket / nesting**: level-wise ordered tables give pointwise ordered band cdfs, at *every* `t`. -/
theorem band_cdf_le_of_levels_le (a b : E) (ys : List E) (L U : List α) (t : E)
    (hL : L.length = ys.length + 1) (hU : U.length = ys.length + 1)
    (h : ∀ i, L.getD i 0 ≤ U.getD i 0) :
    cdf (support ⊥ ⊤ a b (bandObs a b ys L)) t ≤ cdf (support ⊥ ⊤ a b (bandObs a b ys U)) t := by
  rw [band_cdf a b ys L t hL, band_cdf a b ys U t hU]
  exact levelAt_mono _ L U (by rw [hL, hU]) h

end Opda.Band

import OpdaModel.RectProb
import OpdaProofs.BetaBinom
import Mathlib.Algebra.BigOperators.Fin
import Mathlib.Algebra.BigOperators.Ring.Finset
import Mathlib.Data.Fintype.BigOperators
import Mathlib.Data.Nat.Choose.Sum
import Mathlib.Tactic

/-!
# The dynamic programme of `OpdaModel/RectProb.lean` is a sum over assignments of points to cells (C01)

`W cells r c` is the recursion the programme tabulates: distribute `r` points over the list of cells, `c` points lying to the
left; a cell is a pair `(length, allowed cumulative counts at its right end)`.  For the list with entries `(len k, ok k)`,
`k : Fin K`, and every finite type `ι` of points, `W _ (card ι) c = Σ_{g : ι → Fin K} wt len ok c g`, where
`wt len ok c g = [∀ k, ok k (c + #{x | g x ≤ k})] ∏ₓ len (g x)` is the weight of an assignment `g` of points to cells: induction
on `K`, peeling off the set `S` of points sent to the first cell, with `Σ_S f(|S|) = Σ_m C(r,m) f(m)`.  This is the
combinatorial half of C01's rectangle probability (the measure-theoretic half is `RectVolume.lean`).
-/
namespace Opda.RectProbP
open Finset

section abstract
variable {α : Type*} [CommSemiring α]

def W : List (α × (ℕ → Bool)) → ℕ → ℕ → α
  | [], r, _ => if r = 0 then 1 else 0
  | cell :: rest, r, c =>
      ∑ m ∈ range (r + 1),
        (r.choose m : α) * cell.1 ^ m * (if cell.2 (c + m) = true then W rest (r - m) (c + m) else 0)

def wt {ι : Type} [Fintype ι] {K : ℕ} (len : Fin K → α) (ok : Fin K → ℕ → Bool) (c : ℕ) (g : ι → Fin K) : α :=
  if ∀ k, ok k (c + #{x | g x ≤ k}) = true then ∏ x, len (g x) else 0

section extend
variable {ι : Type} [DecidableEq ι] {K : ℕ} (S : Finset ι) (g' : {x // x ∉ S} → Fin K)

def extend : ι → Fin (K + 1) :=
  fun x => if h : x ∈ S then 0 else (g' ⟨x, h⟩).succ

theorem extend_mem {x : ι} (h : x ∈ S) : extend S g' x = 0 := dif_pos h

theorem extend_not_mem (x : {x // x ∉ S}) : extend S g' x = (g' x).succ := dif_neg x.2

theorem extend_eq_zero_iff (x : ι) : extend S g' x = 0 ↔ x ∈ S := by
  by_cases h : x ∈ S
  · rw [extend_mem S g' h]; exact iff_of_true rfl h
  · rw [extend_not_mem S g' ⟨x, h⟩]; exact iff_of_false (Fin.succ_ne_zero _) h

variable [Fintype ι]

-- `to_additive` generates the additive form `sum_extend`, which gives the counts below
@[to_additive]
theorem prod_extend {M : Type*} [CommMonoid M] (φ : Fin (K + 1) → M) :
    ∏ x, φ (extend S g' x) = φ 0 ^ #S * ∏ x, φ (g' x).succ := by
  rw [← Finset.prod_mul_prod_compl S, ← Finset.prod_const]
  exact congrArg₂ _ (Finset.prod_congr rfl fun x hx => by rw [extend_mem S g' hx])
    ((Finset.prod_subtype Sᶜ (fun _ => Finset.mem_compl) _).trans
      (Finset.prod_congr rfl fun x _ => by rw [extend_not_mem S g' x]))

theorem count_extend_zero : #{x | extend S g' x ≤ 0} = #S := by
  rw [Finset.card_filter, sum_extend S g' fun j => if j ≤ 0 then 1 else 0]
  simp only [le_refl, if_true, smul_eq_mul, mul_one, Fin.le_zero_iff, Fin.succ_ne_zero, if_false,
    Finset.sum_const_zero, add_zero]

theorem count_extend_succ (k : Fin K) : #{x | extend S g' x ≤ k.succ} = #S + #{x | g' x ≤ k} := by
  rw [Finset.card_filter, sum_extend S g' fun j => if j ≤ k.succ then 1 else 0, Finset.card_filter]
  simp only [Fin.zero_le, if_true, smul_eq_mul, mul_one, Fin.succ_le_succ_iff]

variable {α : Type*} [CommSemiring α]

theorem wt_extend (len : Fin (K + 1) → α) (ok : Fin (K + 1) → ℕ → Bool) (c : ℕ) :
    wt len ok c (extend S g')
      = len 0 ^ #S * if ok 0 (c + #S) = true then wt (fun k => len k.succ) (fun k => ok k.succ) (c + #S) g' else 0 := by
  simp only [wt, Fin.forall_fin_succ, count_extend_zero, count_extend_succ, ← add_assoc, prod_extend S g' len]
  by_cases h0 : ok 0 (c + #S) = true
  · simp only [h0, true_and, if_true, mul_ite, mul_zero]
  · rw [if_neg h0, if_neg fun h => h0 h.1, mul_zero]

theorem sum_fiber (F : (ι → Fin (K + 1)) → α) :
    ∑ g : ι → Fin (K + 1) with (univ.filter fun x => g x = 0) = S, F g
      = ∑ g' : {x // x ∉ S} → Fin K, F (extend S g') := by
  symm
  refine Finset.sum_nbij (extend S) ?_ ?_ ?_ (fun _ _ => rfl)
  · intro g' _
    exact mem_filter.2 ⟨mem_univ _, Finset.ext fun x => by rw [mem_filter, extend_eq_zero_iff]; exact and_iff_right (mem_univ x)⟩
  · intro g₁ _ g₂ _ h
    funext x
    have := congrFun h x
    rw [extend_not_mem, extend_not_mem] at this
    exact Fin.succ_injective _ this
  · intro g hg
    have hS : ∀ x, x ∈ S ↔ g x = 0 := fun x => by
      rw [← (mem_filter.1 hg).2, mem_filter]; exact (and_iff_right (mem_univ x))
    have hne : ∀ x : {x // x ∉ S}, g x ≠ 0 := fun x h0 => x.2 ((hS x).mpr h0)
    refine ⟨fun x => (g x).pred (hne x), mem_univ _, funext fun x => ?_⟩
    by_cases hx : x ∈ S
    · rw [extend_mem S _ hx]
      exact ((hS x).mp hx).symm
    · rw [extend_not_mem S _ ⟨x, hx⟩]
      exact Fin.succ_pred _ _

end extend

theorem W_ofFn_eq_sum : ∀ (K : ℕ) (len : Fin K → α) (ok : Fin K → ℕ → Bool) (ι : Type) [Fintype ι] [DecidableEq ι]
    (c : ℕ), W (List.ofFn fun k => (len k, ok k)) (Fintype.card ι) c = ∑ g : ι → Fin K, wt len ok c g := by
  intro K
  induction K with
  | zero =>
    intro len ok ι _ _ c
    rw [List.ofFn_zero, W]
    rcases isEmpty_or_nonempty ι with hι | hι
    · rw [if_pos Fintype.card_eq_zero, Fintype.sum_unique, wt, if_pos fun k => k.elim0, Finset.univ_eq_empty,
        Finset.prod_empty]
    · have : IsEmpty (ι → Fin 0) := ⟨fun g => (g (Classical.arbitrary ι)).elim0⟩
      rw [if_neg Fintype.card_ne_zero, Finset.sum_of_isEmpty]
  | succ K ih =>
    intro len ok ι _ _ c
    -- group the assignments by the set `S` of points sent to the first cell, then the sets `S` by their size
    have h2 : ∀ S : Finset ι, (∑ g : ι → Fin (K + 1) with (univ.filter fun x => g x = 0) = S, wt len ok c g)
        = len 0 ^ #S * (if ok 0 (c + #S) = true then
            W (List.ofFn fun k : Fin K => (len k.succ, ok k.succ)) (Fintype.card ι - #S) (c + #S) else 0) := by
      intro S
      have hcard : Fintype.card {x // x ∉ S} = Fintype.card ι - #S := by
        rw [Fintype.card_subtype_compl, Fintype.card_coe]
      rw [sum_fiber S, ← hcard, ih, Finset.sum_congr rfl fun g' _ => wt_extend S g' len ok c, ← Finset.mul_sum]
      split_ifs
      · rfl
      · rw [Finset.sum_const_zero]
    rw [List.ofFn_succ, W, ← Finset.sum_fiberwise (univ : Finset (ι → Fin (K + 1))) (fun g => univ.filter fun x => g x = 0),
      Finset.sum_congr rfl fun S _ => h2 S, ← Finset.powerset_univ, Finset.sum_powerset_apply_card (x := (univ : Finset ι))
        (fun m => len 0 ^ m * (if ok 0 (c + m) = true then
          W (List.ofFn fun k : Fin K => (len k.succ, ok k.succ)) (Fintype.card ι - m) (c + m) else 0)),
      Finset.card_univ]
    exact Finset.sum_congr rfl fun m _ => by rw [nsmul_eq_mul, mul_assoc]

end abstract

section programme
open Opda.RectProb

theorem tab_getD {γ : Type} (k : ℕ) (f : ℕ → γ) (i : ℕ) (d : γ) :
    (tab k f).getD i d = if i < k then f i else d := by
  unfold tab
  by_cases h : i < k <;> simp [Array.getD, h]

theorem sumTo_eq (f : ℕ → ℚ) (k : ℕ) : sumTo f k = ∑ i ∈ range k, f i := by
  induction k with
  | zero => simp [sumTo]
  | succ k ih => rw [sumTo, ih, Finset.sum_range_succ]

theorem binom_getD (n r m : ℕ) (hr : r ≤ n) (hm : m ≤ n) :
    ((binom n).getD r #[]).getD m 0 = r.choose m := by
  unfold binom
  rw [tab_getD, if_pos (show r < n + 1 by omega), tab_getD, if_pos (show m < n + 1 by omega), Opda.BetaBinomP.choose_eq]

theorem step_getD (n : ℕ) (len : ℚ) (ok : ℕ → Bool) (w : Array ℚ) (c : ℕ) (hc : c ≤ n) :
    (step n (binom n) len ok w).getD c 0
      = ∑ m ∈ range (n - c + 1),
          ((n - c).choose m : ℚ) * len ^ m * (if ok (c + m) = true then w.getD (c + m) 0 else 0) := by
  unfold step
  simp only []  -- zeta-reduces the `let`s of `step`
  rw [tab_getD, if_pos (show c < n + 1 by omega), sumTo_eq]
  refine Finset.sum_congr rfl fun m hm => ?_
  have hm' : m ≤ n - c := Nat.lt_succ_iff.1 (Finset.mem_range.1 hm)
  have e1 : (tab (n + 1) fun c => if ok c = true then w.getD c 0 else 0).getD (c + m) 0
      = if ok (c + m) = true then w.getD (c + m) 0 else 0 := by
    rw [tab_getD, if_pos (show c + m < n + 1 by omega)]
  have e2 : (tab (n + 1) fun m => len ^ m).getD m 0 = len ^ m := by
    rw [tab_getD, if_pos (show m < n + 1 by omega)]
  rw [e1, e2, binom_getD n (n - c) m (by omega) (by omega)]
  by_cases hx : (if ok (c + m) = true then w.getD (c + m) 0 else 0) = 0
  · rw [if_pos hx, hx, mul_zero]
  · rw [if_neg hx]

theorem run_getD (n : ℕ) (cells : List (ℚ × (ℕ → Bool))) : ∀ c, c ≤ n →
    (run n (binom n) cells).getD c 0 = W cells (n - c) c := by
  induction cells with
  | nil =>
    intro c hc
    rw [run, tab_getD, if_pos (show c < n + 1 by omega), W]
    have : (c = n) ↔ (n - c = 0) := by omega
    simp only [this]
  | cons cell rest ih =>
    intro c hc
    obtain ⟨len, ok⟩ := cell
    rw [run, step_getD n len ok _ c hc, W]
    refine Finset.sum_congr rfl fun m hm => ?_
    have hm' : m ≤ n - c := Nat.lt_succ_iff.1 (Finset.mem_range.1 hm)
    rw [ih (c + m) (by omega)]
    have : n - (c + m) = n - c - m := by omega
    rw [this]

/-- the common shape of `okUpper` and `okLower`: a conjunction, over the list, of `P x → Q (position of x)` -/
theorem ok_iff {P : ℚ → Prop} {Q : ℕ → Prop} [DecidablePred P] [DecidablePred Q] (f : List ℚ → ℕ → Bool)
    (h0 : ∀ i, f [] i = true)
    (h1 : ∀ x xs i, f (x :: xs) i = ((!decide (P x) || decide (Q i)) && f xs (i + 1))) :
    ∀ (xs : List ℚ) (i : ℕ), f xs i = true ↔ ∀ j (h : j < xs.length), P xs[j] → Q (i + j)
  | [], i => by simp [h0]
  | x :: xs, i => by
    -- the clause of the head is the one for `j = 0`; the clauses of the tail are those for `j + 1`: `i + 1 + j = i + (j + 1)`
    rw [h1, Bool.and_eq_true, ok_iff f h0 h1 xs]
    simp only [List.length_cons, Nat.forall_lt_succ_left']
    refine and_congr ?_ (forall₂_congr fun j _ => ?_)
    · simp only [Bool.or_eq_true, Bool.not_eq_true', decide_eq_false_iff_not, decide_eq_true_eq,
        List.getElem_cons_zero, add_zero, imp_iff_not_or]
    · rw [List.getElem_cons_succ, Nat.add_right_comm i 1 j, Nat.add_assoc]

theorem okUpper_iff (bs : List ℚ) (i : ℕ) (q : ℚ) (c : ℕ) :
    okUpper bs i q c = true ↔ ∀ j (h : j < bs.length), bs[j] ≤ q → i + j + 1 ≤ c :=
  ok_iff (P := (· ≤ q)) (Q := fun i => i + 1 ≤ c) (fun bs i => okUpper bs i q c) (fun _ => rfl) (fun _ _ _ => rfl) bs i

theorem okLower_iff (as : List ℚ) (i : ℕ) (q : ℚ) (c : ℕ) :
    okLower as i q c = true ↔ ∀ j (h : j < as.length), q ≤ as[j] → c ≤ i + j :=
  ok_iff (P := (q ≤ ·)) (Q := (c ≤ ·)) (fun as i => okLower as i q c) (fun _ => rfl) (fun _ _ _ => rfl) as i

theorem okAt_iff (alpha beta : List ℚ) (q : ℚ) (c : ℕ) :
    okAt alpha beta q c = true
      ↔ (∀ i (h : i < beta.length), beta[i] ≤ q → i + 1 ≤ c) ∧ (∀ i (h : i < alpha.length), q ≤ alpha[i] → c ≤ i) := by
  simp only [okAt, Bool.and_eq_true, okUpper_iff, okLower_iff, Nat.zero_add]

def cellLeft (pts : List ℚ) (k : ℕ) : ℚ := if k = 0 then 0 else pts.getD (k - 1) 0

theorem cellLeft_zero (pts : List ℚ) : cellLeft pts 0 = 0 := rfl

theorem cellLeft_of_ne_zero (pts : List ℚ) {k : ℕ} (hk : k ≠ 0) (h : k - 1 < pts.length) :
    cellLeft pts k = pts[k - 1] := by
  rw [cellLeft, if_neg hk, List.getD_eq_getElem?_getD, List.getElem?_eq_getElem h, Option.getD_some]

theorem length_cellsOf (a b : List ℚ) : ∀ (qs : List ℚ) (prev : ℚ), (cellsOf a b prev qs).length = qs.length := by
  intro qs
  induction qs with
  | nil => intro prev; rfl
  | cons q qs ih => intro prev; simp [cellsOf, ih]

theorem getElem_cellsOf (a b : List ℚ) : ∀ (qs : List ℚ) (prev : ℚ) (k : ℕ) (h : k < qs.length),
    (cellsOf a b prev qs)[k]'(by rw [length_cellsOf]; exact h)
      = (qs[k] - (if k = 0 then prev else qs.getD (k - 1) 0), okAt a b qs[k])
  | _ :: _, _, 0, _ => rfl
  | q :: qs, prev, k + 1, h => by
    simp only [cellsOf, List.getElem_cons_succ]
    rw [getElem_cellsOf a b qs q k (Nat.lt_of_succ_lt_succ h)]
    cases k <;> rfl

def cellLen (pts : List ℚ) (k : Fin pts.length) : ℚ := pts.get k - cellLeft pts k

theorem cells_eq_ofFn (a b : List ℚ) :
    cells a b = List.ofFn fun k => (cellLen (points a b) k, okAt a b ((points a b).get k)) := by
  refine List.ext_getElem (by rw [cells, length_cellsOf, List.length_ofFn]) fun k h _ => ?_
  rw [cells, length_cellsOf] at h
  rw [List.getElem_ofFn]
  exact getElem_cellsOf a b (points a b) 0 k h

/-- `coverage` as a sum over all assignments `g` of the `n` points to the `K` cells `(q₍ₖ₋₁₎, qₖ]` between
consecutive break points: the product of the cell lengths if at every break point the number of points assigned to
cells up to it is allowed (`okAt`), else `0` -/
theorem coverage_eq_sum_points (alpha beta : List ℚ) :
    coverage alpha beta
      = ∑ g : Fin alpha.length → Fin (points alpha beta).length,
          if ∀ k, okAt alpha beta ((points alpha beta).get k) #{j | g j ≤ k} = true
          then ∏ j, cellLen (points alpha beta) (g j) else 0 := by
  have h := W_ofFn_eq_sum _ (cellLen (points alpha beta)) (fun k => okAt alpha beta ((points alpha beta).get k))
    (Fin alpha.length) 0
  simp only [wt, Fintype.card_fin, Nat.zero_add] at h
  rw [coverage, run_getD _ _ 0 (Nat.zero_le _), Nat.sub_zero, cells_eq_ofFn, h]

end programme

end Opda.RectProbP

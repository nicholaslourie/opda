import OpdaModel.NoisyFloat
import OpdaProofs.RealInst
import OpdaProofs.NoisyLogic
import OpdaProofs.NormalSpec
import OpdaProofs.QuadLaw
import Mathlib.Probability.Distributions.Gaussian.Real
import Mathlib.MeasureTheory.Integral.IntervalIntegral.Basic
import Mathlib.Analysis.SpecialFunctions.Pow.Real
import Mathlib.Analysis.SpecialFunctions.ExpDeriv
import Mathlib.Analysis.Calculus.Deriv.Pow
import Mathlib.MeasureTheory.Integral.IntervalIntegral.FundThmCalculus
import Mathlib.Analysis.SpecialFunctions.Integrals.Basic
import Mathlib.Tactic

/-!
C06 over `ℝ`: the instance `realFns` of the record the polymorphic model is parameterised by (`Φ` = distribution function
of `gaussianReal 0 1`, `φ` = its density, `Real.rpow`, `Real.cos`, `Real.sqrt`), and the analytic content of the private
partial-moment stack.  The recursion the code uses for the partial integer moments of a normal density on `[a, b]`,
`M (j+1) = μ M j + j σ² M (j-1) + σ² (a^j φ a − b^j φ b)`, is an identity (integration by parts; C06-T3 / C19-T4), so the
model's upward recursion *is* `∫₀¹ x^k dN(μ,σ²)` and the piecewise recursion is `Σ_pieces ∫ p_i dN(μ,σ²)`; replacing
`x^k` by the piecewise polynomial `p` costs at most `sup|x^k − p|` (C06-T4).  Then the series branch of `cdf` / `pdf` at
the real instance; in the noiseless regime `cdf` / `ppf` are those of the noise-free class (C05).
-/
namespace Opda.Gauss
open MeasureTheory intervalIntegral Real

/-- a normal density up to its constant (`Opda.Noisy.dens μ σ` is the member `c = 1/(σ√(2π))`) -/
noncomputable def phi (c μ σ : ℝ) (x : ℝ) : ℝ := c * Real.exp (-(x - μ)^2 / (2 * σ^2))

theorem hasDerivAt_phi (c μ σ : ℝ) (hσ : σ ≠ 0) (x : ℝ) :
    HasDerivAt (phi c μ σ) (-(x - μ) / σ^2 * phi c μ σ x) x := by
  unfold phi
  have hs : σ^2 ≠ 0 := pow_ne_zero 2 hσ
  have h0 : HasDerivAt (fun x : ℝ => x - μ) 1 x := (hasDerivAt_id' x).sub_const μ
  have h1 : HasDerivAt (fun x : ℝ => -(x - μ)^2 / (2 * σ^2)) (-(x - μ) / σ^2) x := by
    have h2 := ((HasDerivAt.fun_pow h0 2).neg).div_const (2 * σ^2)
    refine h2.congr_deriv ?_
    field_simp
    ring
  exact ((h1.exp).const_mul c).congr_deriv (by ring)

theorem continuous_phi (c μ σ : ℝ) : Continuous (phi c μ σ) := by
  unfold phi; fun_prop

noncomputable def M (c μ σ a b : ℝ) (j : ℕ) : ℝ := ∫ x in a..b, x^j * phi c μ σ x

theorem moment_recursion (c μ σ a b : ℝ) (hσ : σ ≠ 0) (j : ℕ) :
    M c μ σ a b (j+1) = μ * M c μ σ a b j + (j : ℝ) * σ^2 * M c μ σ a b (j-1)
      + σ^2 * (a^j * phi c μ σ a - b^j * phi c μ σ b) := by
  have hs : σ^2 ≠ 0 := pow_ne_zero 2 hσ
  have hderiv : ∀ x ∈ Set.uIcc a b, HasDerivAt (fun x => x^j * phi c μ σ x)
      ((j : ℝ) * x^(j-1) * phi c μ σ x + x^j * (-(x - μ) / σ^2 * phi c μ σ x)) x := by
    intro x _
    have h1 : HasDerivAt (fun x : ℝ => x^j) ((j : ℝ) * x^(j-1)) x := hasDerivAt_pow j x
    exact h1.mul (hasDerivAt_phi c μ σ hσ x)
  have hcont : Continuous (fun x => (j : ℝ) * x^(j-1) * phi c μ σ x + x^j * (-(x - μ) / σ^2 * phi c μ σ x)) := by
    have := continuous_phi c μ σ
    fun_prop
  have hftc := integral_eq_sub_of_hasDerivAt hderiv (hcont.intervalIntegrable a b)
  -- pointwise identity: x^(j+1) φ = μ x^j φ + j σ² x^(j-1) φ − σ² (x^j φ)'
  have hpt : ∀ x, x^(j+1) * phi c μ σ x = μ * (x^j * phi c μ σ x) + (j:ℝ) * σ^2 * (x^(j-1) * phi c μ σ x)
      - σ^2 * ((j : ℝ) * x^(j-1) * phi c μ σ x + x^j * (-(x - μ) / σ^2 * phi c μ σ x)) := by
    intro x
    linear_combination (x ^ j * phi c μ σ x) * (mul_div_cancel₀ (-(x - μ)) hs : σ ^ 2 * (-(x - μ) / σ ^ 2) = -(x - μ))
  have hi : ∀ k : ℕ, IntervalIntegrable (fun x => x^k * phi c μ σ x) volume a b := by
    intro k
    have := continuous_phi c μ σ
    exact (by fun_prop : Continuous (fun x => x^k * phi c μ σ x)).intervalIntegrable a b
  unfold M
  rw [integral_congr (fun x _ => hpt x)]
  rw [intervalIntegral.integral_sub, intervalIntegral.integral_add, intervalIntegral.integral_const_mul,
    intervalIntegral.integral_const_mul, intervalIntegral.integral_const_mul, hftc]
  · ring
  · exact (hi j).const_mul μ
  · exact (hi (j-1)).const_mul _
  · exact ((hi j).const_mul μ).add ((hi (j-1)).const_mul _)
  · exact (hcont.intervalIntegrable a b).const_mul _

#print axioms moment_recursion
end Opda.Gauss

namespace Opda.Noisy
open MeasureTheory ProbabilityTheory intervalIntegral Real
open scoped NNReal ENNReal

/-- the real instance; the table and the two "infinite" values are parameters (ℝ has no infinities) -/
noncomputable def realFns (T : List (ℕ × List (Entry ℝ))) (ninf pinf : ℝ) : Fns ℝ :=
  { n := fun k => (k : ℝ)
    pow := Real.rpow
    cos := Real.cos
    sqrt := Real.sqrt
    normalCdf := Phi
    normalPdf := phiStd
    normalPpf := PhiInv
    isInf := fun _ => false
    eq := fun a b => @decide (a = b) (Classical.dec _)
    pi := Real.pi
    negInf := ninf
    posInf := pinf
    table := T }

theorem realFns_lawful (T ninf pinf) : Lawful (realFns T ninf pinf) :=
  { n_cast := fun _ => rfl
    eq_iff := num_eq }

variable (T : List (ℕ × List (Entry ℝ))) (ninf pinf : ℝ)

theorem realFns_n (k : ℕ) : (realFns T ninf pinf).n k = (k : ℝ) := rfl
theorem realFns_pow (x y : ℝ) : (realFns T ninf pinf).pow x y = x ^ y := rfl
theorem realFns_normalCdf : (realFns T ninf pinf).normalCdf = Phi := rfl
theorem realFns_normalPdf : (realFns T ninf pinf).normalPdf = phiStd := rfl

theorem varOf_real (d : Params ℝ) :
    varOf (realFns T ninf pinf) d
      = d.o * d.o + (d.b - d.a) * (d.b - d.a) * 4 * d.c / (((d.c : ℝ) + 2) * ((d.c : ℝ) + 2) * ((d.c : ℝ) + 4)) := by
  simp only [varOf, realFns_n, Nat.cast_ofNat]

theorem phiStd_nonneg (x : ℝ) : 0 ≤ phiStd x := gaussianPDFReal_nonneg 0 1 x

theorem realFns_rangeOK (hp : 0 ≤ pinf) : RangeOK (realFns T ninf pinf) :=
  { cdf01 := fun x => ⟨Normal.Phi_nonneg x, Normal.Phi_le_one x⟩
    pdf0 := phiStd_nonneg
    sqrt0 := Real.sqrt_nonneg
    pow01 := fun _ k h0 h1 hk => ⟨Real.rpow_nonneg h0 k, Real.rpow_le_one h0 h1 hk⟩
    pow0 := fun _ k h0 => Real.rpow_nonneg h0 k
    posInf0 := hp }

/-- density of `N(μ, σ²)` written the way the code evaluates it -/
noncomputable def dens (μ σ x : ℝ) : ℝ := σ⁻¹ * phiStd ((x - μ) / σ)

theorem continuous_dens (μ σ : ℝ) : Continuous (dens μ σ) := by
  unfold dens
  have := Normal.continuous_phiStd
  fun_prop

theorem dens_nonneg (μ σ : ℝ) (hσ : 0 < σ) (x : ℝ) : 0 ≤ dens μ σ x :=
  mul_nonneg (inv_nonneg.mpr hσ.le) (phiStd_nonneg _)

theorem dens_eq_phi (μ σ : ℝ) (hσ : 0 < σ) (x : ℝ) :
    dens μ σ x = Opda.Gauss.phi (σ⁻¹ * (√(2 * π))⁻¹) μ σ x := by
  unfold dens Opda.Gauss.phi
  rw [Normal.phiStd_eq]
  have : -((x - μ) / σ) ^ 2 / 2 = -(x - μ) ^ 2 / (2 * σ ^ 2) := by
    field_simp
  rw [this]; ring

theorem base_moment (μ σ a b : ℝ) (hσ : 0 < σ) :
    ∫ x in a..b, dens μ σ x = Phi ((b - μ) / σ) - Phi ((a - μ) / σ) := by
  -- the substitution `t = (x − μ)/σ = σ⁻¹·x + (−μ/σ)`: `σ⁻¹ ∫_a^b φ((x−μ)/σ) dx = ∫_{(a−μ)/σ}^{(b−μ)/σ} φ(t) dt`
  have e1 : ∀ x : ℝ, σ⁻¹ * x + -μ / σ = (x - μ) / σ := by intro x; field_simp; ring
  have h : σ⁻¹ * ∫ x in a..b, phiStd ((x - μ) / σ) = ∫ t in (a - μ) / σ..(b - μ) / σ, phiStd t := by
    have := smul_integral_comp_mul_add (a := a) (b := b) phiStd σ⁻¹ (-μ / σ)
    simpa only [e1, smul_eq_mul] using this
  unfold dens
  rw [intervalIntegral.integral_const_mul, h]
  exact (Normal.Phi_sub_integral _ _).symm

noncomputable def gmom (μ σ a b : ℝ) (j : ℕ) : ℝ := ∫ x in a..b, x ^ j * dens μ σ x

theorem gmom_eq_M (μ σ a b : ℝ) (hσ : 0 < σ) (j : ℕ) :
    gmom μ σ a b j = Opda.Gauss.M (σ⁻¹ * (√(2 * π))⁻¹) μ σ a b j := by
  unfold gmom Opda.Gauss.M
  exact integral_congr (fun x _ => by simp only [dens_eq_phi μ σ hσ x])

theorem gmom_zero (μ σ a b : ℝ) (hσ : 0 < σ) :
    gmom μ σ a b 0 = Phi ((b - μ) / σ) - Phi ((a - μ) / σ) := by
  unfold gmom; simp only [pow_zero, one_mul]; exact base_moment μ σ a b hσ

/-- the recursion in the form the code uses it: `term0 = σ φ((a−μ)/σ)`, `term1 = −σ φ((b−μ)/σ)`.  `Gauss.moment_recursion`
holds for any constant in front of the density (it does not enter the integration by parts); here, and only here, it is
read at `dens` (`dens_eq_phi`, `gmom_eq_M`). -/
theorem gmom_succ (μ σ a b : ℝ) (hσ : 0 < σ) (j : ℕ) :
    gmom μ σ a b (j + 1) = μ * gmom μ σ a b j + (j : ℝ) * (σ * σ) * gmom μ σ a b (j - 1)
      + σ * phiStd ((a - μ) / σ) * a ^ j + -σ * phiStd ((b - μ) / σ) * b ^ j := by
  rw [gmom_eq_M μ σ a b hσ, gmom_eq_M μ σ a b hσ, gmom_eq_M μ σ a b hσ,
    Opda.Gauss.moment_recursion _ μ σ a b hσ.ne' j, ← dens_eq_phi μ σ hσ a, ← dens_eq_phi μ σ hσ b]
  unfold dens
  -- the boundary terms: `σ² · σ⁻¹ φ = σ φ`
  have hs : σ ^ 2 * σ⁻¹ = σ := by rw [sq, mul_assoc, mul_inv_cancel₀ hσ.ne', mul_one]
  linear_combination (a ^ j * phiStd ((a - μ) / σ) - b ^ j * phiStd ((b - μ) / σ)) * hs

theorem stepUp_eq (μ σ : ℝ) (hσ : 0 < σ) (r j : ℕ) :
    stepUp (realFns T ninf pinf) μ (σ * σ) (-σ * phiStd ((1 - μ) / σ)) r j (gmom μ σ 0 1 j) (gmom μ σ 0 1 (j + 1))
      = gmom μ σ 0 1 (j + 1 + r) := by
  induction r generalizing j with
  | zero => rfl
  | succ r ih =>
    unfold stepUp
    -- `gmom_succ` on `[0, 1]`: `0^(j+1) = 0` removes the boundary term at `0` and `1^(j+1) = 1` makes the one at `1`
    -- independent of `j`, which is why the code carries a single constant `term`
    have h := gmom_succ μ σ 0 1 hσ (j + 1)
    rw [zero_pow (Nat.succ_ne_zero j), mul_zero, add_zero, one_pow, mul_one, Nat.add_sub_cancel] at h
    rw [realFns_n, Nat.add_comm 1 j, ← h, ih (j + 1)]
    congr 1; omega

/-- **C06-T3**: for integer order the model's upward recursion is the exact partial moment
`∫₀¹ x^k dN(loc, scale²)` -/
theorem partialMomentInt_eq (μ σ : ℝ) (hσ : 0 < σ) (k : ℕ) :
    partialMomentInt (realFns T ninf pinf) μ σ k = gmom μ σ 0 1 k := by
  have h0 : Phi ((1 - μ) / σ) - Phi (-μ / σ) = gmom μ σ 0 1 0 := by
    rw [gmom_zero μ σ 0 1 hσ]; simp
  have h1 : μ * gmom μ σ 0 1 0 + σ * (phiStd (-μ / σ) - phiStd ((1 - μ) / σ)) = gmom μ σ 0 1 1 := by
    have := gmom_succ μ σ 0 1 hσ 0
    simp only [zero_add, pow_zero, mul_one, Nat.cast_zero, zero_mul, add_zero, zero_sub] at this
    rw [this]; ring
  unfold partialMomentInt
  simp only [realFns_n, realFns_normalCdf, realFns_normalPdf, Nat.cast_one]
  cases k with
  | zero => exact h0
  | succ k' =>
    simp only
    rw [h0, h1, stepUp_eq T ninf pinf μ σ hσ k' 0]
    congr 1; omega

def polyMom (M : ℕ → ℝ) : List ℝ → ℕ → ℝ
  | [], _ => 0
  | c :: rest, i => c * M i + polyMom M rest (i + 1)

def polyEval : List ℝ → ℕ → ℝ → ℝ
  | [], _, _ => 0
  | c :: rest, i, x => c * x ^ i + polyEval rest (i + 1) x

theorem continuous_polyEval (cs : List ℝ) (i : ℕ) : Continuous (polyEval cs i) := by
  induction cs generalizing i with
  | nil => exact continuous_const
  | cons c rest ih =>
    have := ih (i + 1)
    show Continuous fun x => c * x ^ i + polyEval rest (i + 1) x
    fun_prop

theorem polyMom_eq_integral (μ σ a b : ℝ) (cs : List ℝ) (i : ℕ) :
    polyMom (gmom μ σ a b) cs i = ∫ x in a..b, polyEval cs i x * dens μ σ x := by
  induction cs generalizing i with
  | nil => simp [polyMom, polyEval]
  | cons c rest ih =>
    have hd := continuous_dens μ σ
    have hp := continuous_polyEval rest (i + 1)
    have e : ∀ x, polyEval (c :: rest) i x * dens μ σ x
        = c * (x ^ i * dens μ σ x) + polyEval rest (i + 1) x * dens μ σ x := by
      intro x; simp only [polyEval]; ring
    simp only [polyMom, e]
    rw [intervalIntegral.integral_add, intervalIntegral.integral_const_mul, ih (i + 1)]
    · rfl
    · exact (by fun_prop : Continuous fun x => c * (x ^ i * dens μ σ x)).intervalIntegrable a b
    · exact (by fun_prop : Continuous fun x => polyEval rest (i + 1) x * dens μ σ x).intervalIntegrable a b

/-- (`hprev`: at `i = 0` the code passes a dummy `mPrev`, harmless because it is multiplied by `i = 0`) -/
theorem pieceLoop_eq (μ σ a b : ℝ) (hσ : 0 < σ) (cs : List ℝ) (i : ℕ) (mPrev fm : ℝ)
    (hprev : i = 0 ∨ mPrev = gmom μ σ a b (i - 1)) :
    pieceLoop (realFns T ninf pinf) μ (σ * σ) a b cs i mPrev (gmom μ σ a b i)
        (σ * phiStd ((a - μ) / σ) * a ^ i) (-σ * phiStd ((b - μ) / σ) * b ^ i) fm
      = fm + polyMom (gmom μ σ a b) cs (i + 1) := by
  induction cs generalizing i mPrev fm with
  | nil => simp [pieceLoop, polyMom]
  | cons c rest ih =>
    unfold pieceLoop
    have hnext : μ * gmom μ σ a b i + (i : ℝ) * (σ * σ) * mPrev + σ * phiStd ((a - μ) / σ) * a ^ i
        + -σ * phiStd ((b - μ) / σ) * b ^ i = gmom μ σ a b (i + 1) := by
      rw [gmom_succ μ σ a b hσ i]
      rcases hprev with h | h
      · subst h; simp
      · rw [h]
    simp only [realFns_n, hnext]
    have := ih (i + 1) (gmom μ σ a b i) (fm + c * gmom μ σ a b (i + 1)) (Or.inr (by simp))
    rw [pow_succ, pow_succ, ← mul_assoc, ← mul_assoc] at this
    rw [this]
    simp only [polyMom]; ring

theorem pieceSum_eq (μ σ : ℝ) (hσ : 0 < σ) (fm a b : ℝ) (cs : List ℝ) :
    pieceSum (realFns T ninf pinf) μ σ fm ((a, b), cs)
      = fm + ∫ x in a..b, polyEval cs 0 x * dens μ σ x := by
  rw [← polyMom_eq_integral]
  unfold pieceSum
  cases cs with
  | nil => simp [polyMom]
  | cons c0 rest =>
    have h0 : Phi ((b - μ) / σ) - Phi ((a - μ) / σ) = gmom μ σ a b 0 := (gmom_zero μ σ a b hσ).symm
    simp only [realFns_n, realFns_normalCdf, realFns_normalPdf, h0]
    have := pieceLoop_eq T ninf pinf μ σ a b hσ rest 0 ((0:ℕ):ℝ) (fm + c0 * gmom μ σ a b 0) (Or.inl rfl)
    simp only [pow_zero, mul_one] at this
    rw [this]
    simp only [polyMom]; ring

noncomputable def piecesSum (μ σ : ℝ) : List ((ℝ × ℝ) × List ℝ) → ℝ
  | [] => 0
  | pc :: rest => (∫ x in pc.1.1..pc.1.2, polyEval pc.2 0 x * dens μ σ x) + piecesSum μ σ rest

theorem foldl_pieceSum (μ σ : ℝ) (hσ : 0 < σ) (ps : List ((ℝ × ℝ) × List ℝ)) (acc : ℝ) :
    ps.foldl (pieceSum (realFns T ninf pinf) μ σ) acc = acc + piecesSum μ σ ps := by
  induction ps generalizing acc with
  | nil => simp [piecesSum]
  | cons pc rest ih =>
    obtain ⟨⟨a, b⟩, cs⟩ := pc
    rw [List.foldl_cons, pieceSum_eq T ninf pinf μ σ hσ, ih]
    simp only [piecesSum]; ring

/-- the pieces `partialFractional` walks through for the order `m2/2`: `zip(knots, knots[1:], coeffs)` -/
noncomputable def selectedPieces (F : Fns ℝ) (μ σ : ℝ) (m2 : ℤ) : List ((ℝ × ℝ) × List ℝ) :=
  ((approxCoeffs F μ σ m2).1.zip (approxCoeffs F μ σ m2).1.tail).zip (approxCoeffs F μ σ m2).2

/-- **C06-T3 for half-integer orders**: whatever knots and coefficients are selected (shipped table or
Chebyshev fallback), the model over `ℝ` returns exactly `Σ_pieces ∫ p_i dN(loc, scale²)` -/
theorem partialFractional_eq (μ σ : ℝ) (hσ : 0 < σ) (m2 : ℤ) :
    partialFractional (realFns T ninf pinf) μ σ m2
      = piecesSum μ σ (selectedPieces (realFns T ninf pinf) μ σ m2) := by
  unfold partialFractional
  rw [foldl_pieceSum T ninf pinf μ σ hσ, realFns_n, Nat.cast_zero, zero_add]
  rfl

theorem piece_error (μ σ a b ε : ℝ) (hσ : 0 < σ) (hab : a ≤ b) (f : ℝ → ℝ) (hf : Continuous f) (cs : List ℝ)
    (hε : ∀ x ∈ Set.Icc a b, |f x - polyEval cs 0 x| ≤ ε) :
    |(∫ x in a..b, f x * dens μ σ x) - ∫ x in a..b, polyEval cs 0 x * dens μ σ x|
      ≤ ε * ∫ x in a..b, dens μ σ x := by
  have hd := continuous_dens μ σ
  have hp := continuous_polyEval cs 0
  have i1 : IntervalIntegrable (fun x => f x * dens μ σ x) volume a b :=
    (by fun_prop : Continuous fun x => f x * dens μ σ x).intervalIntegrable a b
  have i2 : IntervalIntegrable (fun x => polyEval cs 0 x * dens μ σ x) volume a b :=
    (by fun_prop : Continuous fun x => polyEval cs 0 x * dens μ σ x).intervalIntegrable a b
  rw [← intervalIntegral.integral_sub i1 i2, ← intervalIntegral.integral_const_mul]
  refine (abs_integral_le_integral_abs hab).trans ?_
  apply intervalIntegral.integral_mono_on hab
  · exact (by fun_prop : Continuous fun x => |f x * dens μ σ x - polyEval cs 0 x * dens μ σ x|).intervalIntegrable a b
  · exact (by fun_prop : Continuous fun x => ε * dens μ σ x).intervalIntegrable a b
  · intro x hx
    have hdn := dens_nonneg μ σ hσ x
    rw [← sub_mul, abs_mul, abs_of_nonneg hdn]
    exact mul_le_mul_of_nonneg_right (hε x hx) hdn

/-- consecutive pieces `x₀ = a₁ ≤ b₁ = a₂ ≤ … ≤ bₙ = x₁` -/
inductive ChainFrom : ℝ → List ((ℝ × ℝ) × List ℝ) → ℝ → Prop
  | nil (x : ℝ) : ChainFrom x [] x
  | cons (a b x1 : ℝ) (cs : List ℝ) (rest : List ((ℝ × ℝ) × List ℝ)) (hab : a ≤ b)
      (h : ChainFrom b rest x1) : ChainFrom a (((a, b), cs) :: rest) x1

/-- the induction behind `chain_error_le`: weighted with the mass of each piece, the bounds of adjacent pieces add up -/
theorem chain_error (μ σ ε : ℝ) (hσ : 0 < σ) (f : ℝ → ℝ) (hf : Continuous f) (x0 x1 : ℝ)
    (ps : List ((ℝ × ℝ) × List ℝ)) (hc : ChainFrom x0 ps x1)
    (hε : ∀ pc ∈ ps, ∀ x ∈ Set.Icc pc.1.1 pc.1.2, |f x - polyEval pc.2 0 x| ≤ ε) :
    |(∫ x in x0..x1, f x * dens μ σ x) - piecesSum μ σ ps| ≤ ε * ∫ x in x0..x1, dens μ σ x := by
  have hd := continuous_dens μ σ
  induction hc with
  | nil x => simp [piecesSum]
  | cons a b x1 cs rest hab h ih =>
    have i1 : ∀ u v, IntervalIntegrable (fun x => f x * dens μ σ x) volume u v := fun u v =>
      (by fun_prop : Continuous fun x => f x * dens μ σ x).intervalIntegrable u v
    have i2 : ∀ u v, IntervalIntegrable (dens μ σ) volume u v := fun u v => hd.intervalIntegrable u v
    rw [← intervalIntegral.integral_add_adjacent_intervals (i1 a b) (i1 b x1),
      ← intervalIntegral.integral_add_adjacent_intervals (i2 a b) (i2 b x1)]
    simp only [piecesSum]
    have e1 := piece_error μ σ a b ε hσ hab f hf cs (hε ((a, b), cs) (List.mem_cons_self))
    have e2 := ih (fun pc hpc => hε pc (List.mem_cons_of_mem _ hpc))
    have : (∫ x in a..b, f x * dens μ σ x) + (∫ x in b..x1, f x * dens μ σ x)
        - ((∫ x in a..b, polyEval cs 0 x * dens μ σ x) + piecesSum μ σ rest)
        = ((∫ x in a..b, f x * dens μ σ x) - ∫ x in a..b, polyEval cs 0 x * dens μ σ x)
          + ((∫ x in b..x1, f x * dens μ σ x) - piecesSum μ σ rest) := by ring
    rw [this, mul_add]
    exact (abs_add_le _ _).trans (add_le_add e1 e2)

/-- **C06-T4**: if the pieces tile `[x₀, x₁]` and on each piece the polynomial is within `ε` of `f`
(for the model: `f = x^k`, `ε = sup |x^k − p|`), then the piecewise recursion's result is within
`ε · ∫_{x₀}^{x₁} dN ≤ ε` of the true partial moment `∫_{x₀}^{x₁} f dN`. -/
theorem chain_error_le (μ σ ε : ℝ) (hσ : 0 < σ) (hε0 : 0 ≤ ε) (f : ℝ → ℝ) (hf : Continuous f) (x0 x1 : ℝ)
    (ps : List ((ℝ × ℝ) × List ℝ)) (hc : ChainFrom x0 ps x1)
    (hε : ∀ pc ∈ ps, ∀ x ∈ Set.Icc pc.1.1 pc.1.2, |f x - polyEval pc.2 0 x| ≤ ε) :
    |(∫ x in x0..x1, f x * dens μ σ x) - piecesSum μ σ ps| ≤ ε :=
  (chain_error μ σ ε hσ f hf x0 x1 ps hc hε).trans (mul_le_of_le_one_right hε0 (by
    -- the mass of `N(μ, σ²)` on an interval is at most one
    rw [base_moment μ σ x0 x1 hσ]
    linarith [Normal.Phi_le_one ((x1 - μ) / σ), Normal.Phi_nonneg ((x0 - μ) / σ)]))

theorem partialMoment_even (μ σ : ℝ) (hσ : 0 < σ) (k : ℕ) :
    partialMoment (realFns T ninf pinf) μ σ ((2 * k : ℕ) : ℤ) = gmom μ σ 0 1 k := by
  unfold partialMoment
  have h1 : (realFns T ninf pinf).isInf μ = false := rfl
  have h2 : ((2 * k : ℕ) : ℤ) % 2 = 0 := by omega
  have h3 : (((2 * k : ℕ) : ℤ) / 2).toNat = k := by omega
  rw [h1, if_neg (by simp), if_pos h2, h3]
  exact partialMomentInt_eq T ninf pinf μ σ hσ k

/-- half-integer orders `≥ ½`.  The order `−½` (`m2 = −1`: the pdf of `c = 1`) is excluded by `h3`: for it the code takes one
step down from the orders `½`, `3/2` (scale `≥ 0.05`), else the Chebyshev fallback `chebCoeffs`; neither has a statement
over `ℝ` in this development. -/
theorem partialMoment_odd (μ σ : ℝ) (hσ : 0 < σ) (k : ℕ) :
    partialMoment (realFns T ninf pinf) μ σ ((2 * k + 1 : ℕ) : ℤ)
      = piecesSum μ σ (selectedPieces (realFns T ninf pinf) μ σ ((2 * k + 1 : ℕ) : ℤ)) := by
  unfold partialMoment partialMomentHalf
  have h1 : (realFns T ninf pinf).isInf μ = false := rfl
  have h2 : ¬ (((2 * k + 1 : ℕ) : ℤ) % 2 = 0) := by omega
  have h3 : ¬ (((2 * k + 1 : ℕ) : ℤ) = -1 ∧ ¬ σ < (realFns T ninf pinf).lit 5 100) := by
    intro h; have := h.1; omega
  rw [h1, if_neg (by simp), if_neg h2, if_neg h3]
  exact partialFractional_eq T ninf pinf μ σ hσ _

/-- the pieces `ps` tile `[0, 1]` and each polynomial is within `ε` of `x ↦ x^p` on its piece: the hypothesis of every
odd-`c` bound, and what C19 certifies of an entry of the shipped table (`Opda.Table.entry_accurate`) -/
structure PiecesAccurate (ps : List ((ℝ × ℝ) × List ℝ)) (p ε : ℝ) : Prop where
  chain : ChainFrom 0 ps 1
  eps : ∀ pc ∈ ps, ∀ x ∈ Set.Icc pc.1.1 pc.1.2, |x ^ p - polyEval pc.2 0 x| ≤ ε

theorem partialMoment_odd_error (μ σ : ℝ) (hσ : 0 < σ) (k : ℕ) (ε : ℝ) (hε0 : 0 ≤ ε)
    (hA : PiecesAccurate (selectedPieces (realFns T ninf pinf) μ σ ((2 * k + 1 : ℕ) : ℤ)) (((2 * k + 1 : ℕ) : ℝ) / 2) ε) :
    |(∫ x in (0:ℝ)..1, x ^ (((2 * k + 1 : ℕ) : ℝ) / 2) * dens μ σ x)
        - partialMoment (realFns T ninf pinf) μ σ ((2 * k + 1 : ℕ) : ℤ)| ≤ ε := by
  rw [partialMoment_odd T ninf pinf μ σ hσ k]
  exact chain_error_le μ σ ε hσ hε0 _ (Real.continuous_rpow_const (by positivity)) 0 1 _ hA.chain hA.eps

theorem cdf_noiseless_real (d : Params ℝ) (hp : pointMass (realFns T ninf pinf) d = false)
    (h : regime (realFns T ninf pinf) d = .noiseless) (y : ℝ) :
    cdf (realFns T ninf pinf) d y
      = if d.convex then ((clip y d.a d.b - d.a) / (d.b - d.a)) ^ ((d.c : ℝ) / 2)
        else 1 - ((d.b - clip y d.a d.b) / (d.b - d.a)) ^ ((d.c : ℝ) / 2) := by
  rw [cdf_noiseless d y hp h]
  simp only [realFns_n, realFns_pow, Nat.cast_ofNat, Nat.cast_one]

theorem cdf_noiseless_eq_quad (d : Params ℝ) (hab : d.a < d.b) (hp : pointMass (realFns T ninf pinf) d = false)
    (h : regime (realFns T ninf pinf) d = .noiseless) (x : ℝ) :
    cdf (realFns T ninf pinf) d x = Opda.Quad.cdf ⟨d.a, d.b, d.c, d.convex⟩ x := by
  rw [cdf_noiseless_real T ninf pinf d hp h, Opda.Quad.cdf_eq _ hab]
  rfl

theorem ppf_noiseless_eq_quad (d : Params ℝ) (hp : pointMass (realFns T ninf pinf) d = false)
    (h : regime (realFns T ninf pinf) d = .noiseless) (q : ℝ) :
    ppf (realFns T ninf pinf) d q = Opda.Quad.ppf ⟨d.a, d.b, d.c, d.convex⟩ q := by
  rw [ppf_noiseless d q hp h, Opda.Quad.ppf_eq]
  simp only [realFns_n, realFns_pow, Nat.cast_zero, Nat.cast_one, Nat.cast_ofNat]
  rfl

/-- `d` is evaluated by the series branch of the real instance that reads the table `T` -/
structure Series (d : Params ℝ) : Prop where
  hp : pointMass (realFns T ninf pinf) d = false
  h : regime (realFns T ninf pinf) d = .nothing

section series
variable {T ninf pinf} {d : Params ℝ} (S : Series T ninf pinf d)
include S

theorem Series.o_pos : 0 < d.o := (nothing_pos (realFns_lawful T ninf pinf) d S.h).1

theorem Series.w_pos : 0 < d.b - d.a := (nothing_pos (realFns_lawful T ninf pinf) d S.h).2

/-- the scale `o/(b−a)` the partial moments are taken at -/
theorem Series.s_pos : 0 < d.o / (d.b - d.a) := div_pos S.o_pos S.w_pos

theorem Series.s_lt : d.o / (d.b - d.a) < 10 :=
  (div_lt_iff₀ S.w_pos).mpr ((regime_nothing_iff (realFns_lawful T ninf pinf) d).mp S.h).2

/-- the bisection's initial bracket `[a − 6o, b + 6o]` is `(1 + 12·o/(b−a))·(b − a)`, at most `121 (b − a)`, wide -/
theorem Series.width_le : 1 + 12 * (d.o / (d.b - d.a)) ≤ 121 := by linarith [S.s_lt]

theorem cdf_series (y : ℝ) :
    cdf (realFns T ninf pinf) d y = clip (cdfRaw (realFns T ninf pinf) d y) 0 1 := by
  rw [cdf_nothing d y S.hp S.h, realFns_n, realFns_n, Nat.cast_zero, Nat.cast_one]

theorem pdf_series (y : ℝ) :
    pdf (realFns T ninf pinf) d y = max 0 ((d.c : ℝ) / (2 * (d.b - d.a))
      * partialMoment (realFns T ninf pinf) (locOf d y) (d.o / (d.b - d.a)) ((d.c : ℤ) - 2)) := by
  rw [pdf_nothing d y S.hp S.h]
  unfold pdfRaw
  rw [realFns_n, realFns_n, realFns_n, Nat.cast_zero, Nat.cast_ofNat]
  split_ifs with h1
  · exact (max_eq_left h1.le).symm
  · exact (max_eq_right (not_lt.mp h1)).symm

end series

end Opda.Noisy

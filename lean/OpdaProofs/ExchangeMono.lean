import OpdaModel.Approx
import OpdaProofs.Lagrange
import OpdaProofs.RemezModel
import Mathlib.LinearAlgebra.Lagrange
import Mathlib.Algebra.Order.BigOperators.Ring.Finset
import Mathlib.Order.Interval.Set.Monotone
import Mathlib.Tactic

/-!
C17: de la Vallée-Poussin's bound and why the exchange step of the Remez algorithm works, from one identity.

For a strictly increasing reference `x_0 < … < x_{n+1}` let `w_i = 1 / Π_{j ≠ i} (x_i − x_j)` be the
barycentric weights of **all** `n+2` points (the model term `Lagr.weight (n+2) x i`).  `Σ w_i q(x_i) = 0` for
every polynomial of degree `≤ n` (the divided difference of order `n+1`) and `sign w_i = (−1)^(n+1−i)`, so
`g ↦ Σ |w_i| (−1)^i g_i` kills such polynomials.  Hence no polynomial of degree `≤ n` alternates strictly in sign
along the reference, which gives de la Vallée-Poussin in any ordered field and that the levelling denominator
`p1(x_{n+1}) + (−1)^n` never vanishes on an ordered reference.  With `λ_i = |w_i| / Σ|w_j|`, the levelled error is
`h = Σ λ_i (−1)^i (f(x_i) − q(x_i))` for **every** polynomial `q` of degree `≤ n`; if the errors `e_i` of `q`
alternate in sign, `|h| = Σ λ_i |e_i|`, hence `min |e_i| ≤ |h| ≤ max |e_i|` (the code's comment "Two conditions are
necessary to increase the leveled reference error").
-/

namespace Opda.Exchange
open Polynomial Finset Opda.Lagr Opda.Remez

section Alg
variable {F : Type} [Field F]

theorem sum_weight_mul_eval (n : ℕ) (x : ℕ → F) (hx : Set.InjOn x (range (n + 2) : Finset ℕ))
    (q : F[X]) (hq : q.natDegree ≤ n) :
    ∑ i ∈ range (n + 2), weight (n + 2) x i * q.eval (x i) = 0 := by
  have hdeg : q.degree < ((range (n + 2)).card : WithBot ℕ) := by
    rw [card_range]
    exact lt_of_le_of_lt (degree_le_of_natDegree_le hq) (by exact_mod_cast (by omega : n < n + 2))
  have h := Lagrange.coeff_eq_sum hx hdeg
  rw [card_range, show n + 2 - 1 = n + 1 by omega, coeff_eq_zero_of_natDegree_lt (by omega)] at h
  rw [h]
  refine Finset.sum_congr rfl fun i _ => ?_
  classical
  rw [weight_eq, Lagrange.nodalWeight, Finset.prod_inv_distrib, div_eq_mul_inv, mul_comm]

theorem alt_sq (i : ℕ) : (-1 : F) ^ i * (-1) ^ i = 1 := by rw [← mul_pow]; simp

theorem alt_split (n i : ℕ) (hi : i ≤ n + 1) : (-1 : F) ^ (n + 1) = (-1) ^ (n + 1 - i) * (-1) ^ i :=
  (pow_sub_mul_pow (-1) hi).symm

end Alg

theorem injOn_of_strictMonoOn {α : Type} [Preorder α] {n : ℕ} {x : ℕ → α} (hx : StrictMonoOn x (Set.Iic (n + 1)))
    (m : ℕ) (hm : m ≤ n + 2) : Set.InjOn x (range m : Finset ℕ) :=
  hx.injOn.mono fun i hi => Set.mem_Iic.mpr (by have := mem_range.mp (mem_coe.mp hi); omega)

/-- consecutive increase (what `checkAlt` tests) gives a strictly increasing reference -/
theorem strictMonoOn_of_succ {α : Type} [Preorder α] (n : ℕ) (x : ℕ → α) (h : ∀ i, i ≤ n → x i < x (i + 1)) :
    StrictMonoOn x (Set.Iic (n + 1)) :=
  strictMonoOn_Iic_of_lt_succ fun m hm => h m (Nat.lt_succ_iff.1 hm)

section Ord
variable {F : Type} [Field F] [LinearOrder F] [IsStrictOrderedRing F]

/-- a sign `σ = ±1` and the alternation `(−1)^i` do not change absolute values -/
theorem abs_sign_alt_mul {σ : F} (hσ : |σ| = 1) (i : ℕ) (t : F) : |σ * (-1) ^ i * t| = |t| := by
  rw [abs_mul, abs_mul, hσ, abs_neg_one_pow, one_mul, one_mul]

def lam (n : ℕ) (x : ℕ → F) (i : ℕ) : F :=
  |weight (n + 2) x i| / ∑ j ∈ range (n + 2), |weight (n + 2) x j|

variable {n : ℕ} {x : ℕ → F} (hx : StrictMonoOn x (Set.Iic (n + 1)))
include hx

theorem weight_sign (i : ℕ) (hi : i ≤ n + 1) :
    0 < (-1 : F) ^ (n + 1 - i) * weight (n + 2) x i := by
  rw [weight_eq, Lagrange.nodalWeight]
  have hs : (-1 : F) ^ (n + 1 - i) = ∏ j ∈ (range (n + 2)).erase i, (if i < j then (-1 : F) else 1) := by
    rw [Finset.prod_ite, prod_const, prod_const_one, mul_one]
    congr 1
    have : ((range (n + 2)).erase i).filter (fun j => i < j) = Ioc i (n + 1) := by
      ext j
      simp only [mem_filter, mem_erase, mem_range, mem_Ioc]
      omega
    rw [this, Nat.card_Ioc]
  have hpos : ∀ a b, a ≤ n + 1 → b ≤ n + 1 → a < b → 0 < (x b - x a)⁻¹ := fun a b ha hb hab =>
    inv_pos.mpr (sub_pos.mpr (hx ha hb hab))
  rw [hs, ← prod_mul_distrib]
  refine prod_pos fun j hj => ?_
  obtain ⟨hne, hj⟩ := mem_erase.mp hj
  have hj := mem_range_succ_iff.mp hj
  split_ifs with hij
  · rw [neg_one_mul, ← inv_neg, neg_sub]
    exact hpos i j hi hj hij
  · rw [one_mul]
    exact hpos j i hj hi (by omega)

theorem weight_ne_zero (i : ℕ) (hi : i ≤ n + 1) :
    weight (n + 2) x i ≠ 0 := by
  intro h0
  have := weight_sign hx i hi
  rw [h0, mul_zero] at this
  exact lt_irrefl _ this

theorem abs_weight (i : ℕ) (hi : i ≤ n + 1) :
    |weight (n + 2) x i| = (-1 : F) ^ (n + 1 - i) * weight (n + 2) x i := by
  rw [← abs_of_pos (weight_sign hx i hi), abs_mul, abs_neg_one_pow, one_mul]

theorem sumAbs_pos :
    0 < ∑ j ∈ range (n + 2), |weight (n + 2) x j| := by
  apply Finset.sum_pos
  · intro i hi
    exact abs_pos.mpr (weight_ne_zero hx i (mem_range_succ_iff.mp hi))
  · exact ⟨0, mem_range.mpr (by omega)⟩

theorem sum_abs_weight_alt (g : ℕ → F) :
    ∑ i ∈ range (n + 2), |weight (n + 2) x i| * ((-1) ^ i * g i)
      = (-1) ^ (n + 1) * ∑ i ∈ range (n + 2), weight (n + 2) x i * g i := by
  rw [Finset.mul_sum]
  refine Finset.sum_congr rfl fun i hi => ?_
  have hi := mem_range_succ_iff.mp hi
  rw [abs_weight hx i hi, alt_split n i hi]
  ring

/-- the `|w_i|`-weighted sum of the (positive) numbers `σ (−1)^i r(x_i)` is `± Σ w_i (σ r)(x_i) = 0` -/
theorem no_alternation (r : F[X])
    (hr : r.natDegree ≤ n) (σ : F) (h : ∀ i, i ≤ n + 1 → 0 < σ * (-1) ^ i * r.eval (x i)) : False := by
  have h0 := sum_abs_weight_alt hx (fun i => (C σ * r).eval (x i))
  rw [sum_weight_mul_eval n x (injOn_of_strictMonoOn hx (n + 2) le_rfl) _
    ((natDegree_C_mul_le σ r).trans hr), mul_zero] at h0
  refine (Finset.sum_pos (fun i hi => ?_) ⟨0, mem_range.mpr (by omega)⟩).ne' h0
  have hi := mem_range_succ_iff.mp hi
  refine mul_pos (abs_pos.mpr (weight_ne_zero hx i hi)) ?_
  rw [eval_mul, eval_C, mul_left_comm, ← mul_assoc]
  exact h i hi

/-- **de la Vallée-Poussin** in any ordered field: else `q − p` would alternate strictly -/
theorem dvp_ordered (y : ℕ → F)
    (p q : F[X]) (hp : p.natDegree ≤ n) (hq : q.natDegree ≤ n) (e σ : F) (hσ : |σ| = 1)
    (halt : ∀ i, i ≤ n + 1 → e ≤ σ * (-1) ^ i * (y i - p.eval (x i))) :
    ∃ i, i ≤ n + 1 ∧ e ≤ |y i - q.eval (x i)| := by
  by_contra hcon
  push Not at hcon
  refine no_alternation hx (q - p) ((natDegree_sub_le _ _).trans (max_le hq hp)) σ fun i hi => ?_
  have h3 : σ * (-1) ^ i * (y i - q.eval (x i)) ≤ |y i - q.eval (x i)| :=
    (le_abs_self _).trans_eq (abs_sign_alt_mul hσ i _)
  rw [eval_sub, show σ * (-1) ^ i * (q.eval (x i) - p.eval (x i))
    = σ * (-1) ^ i * (y i - p.eval (x i)) - σ * (-1) ^ i * (y i - q.eval (x i)) by ring]
  exact sub_pos.mpr ((h3.trans_lt (hcon i hi)).trans_le (halt i hi))

/-- otherwise `p1` would take the values `(−1)^i` at all `n+2` points -/
theorem den_ne_zero :
    eval (x (n + 1)) (Lagrange.interpolate (range (n + 1)) x (fun i => (-1 : F) ^ i)) + (-1) ^ n ≠ 0 := by
  intro hden
  have hinj := injOn_of_strictMonoOn hx (n + 1) (by omega)
  set p1 := Lagrange.interpolate (range (n + 1)) x (fun i => (-1 : F) ^ i) with hp1
  refine no_alternation hx p1 (natDegree_interpolate_le n x _ hinj) 1 fun i hi => ?_
  have : eval (x i) p1 = (-1) ^ i := by
    rcases Nat.lt_or_ge i (n + 1) with hlt | hge
    · exact Lagrange.eval_interpolate_at_node _ hinj (mem_range.mpr hlt)
    · obtain rfl : i = n + 1 := by omega
      rw [pow_succ, mul_neg_one]; exact eq_neg_of_add_eq_zero_left hden
  rw [this, one_mul, alt_sq]; exact one_pos

theorem den_ne_zero_model [DecidableEq F] : Lagr.eval (n + 1) x altSign (x (n + 1)) + altSign n ≠ 0 := by
  rw [eval_eq_interpolate (n + 1) x _ (injOn_of_strictMonoOn hx (n + 1) (by omega)), altSign_eq, altSign_fun]
  exact den_ne_zero hx

theorem lam_pos (i : ℕ) (hi : i ≤ n + 1) :
    0 < lam n x i :=
  div_pos (abs_pos.mpr (weight_ne_zero hx i hi)) (sumAbs_pos hx)

theorem lam_sum :
    ∑ i ∈ range (n + 2), lam n x i = 1 := by
  unfold lam
  rw [← Finset.sum_div, div_self (sumAbs_pos hx).ne']

/-- split `y − q = (y − p) + (p − q)`: the functional `g ↦ Σ |w_i| (−1)^i g_i` kills `p − q` and sends `(−1)^i h`
to `h Σ|w_i|` -/
theorem weighted_mean_of_levelled (y : ℕ → F)
    (p : F[X]) (hp : p.natDegree ≤ n) (h : F)
    (hlev : ∀ i, i ≤ n + 1 → y i - p.eval (x i) = (-1) ^ i * h)
    (q : F[X]) (hq : q.natDegree ≤ n) :
    h = ∑ i ∈ range (n + 2), lam n x i * ((-1) ^ i * (y i - q.eval (x i))) := by
  have hA := sum_abs_weight_alt hx (fun i => (q - p).eval (x i))
  rw [sum_weight_mul_eval n x (injOn_of_strictMonoOn hx (n + 2) le_rfl) _
    ((natDegree_sub_le q p).trans (max_le hq hp)), mul_zero] at hA
  have hterm : ∀ i ∈ range (n + 2), h * |weight (n + 2) x i|
      = |weight (n + 2) x i| * ((-1) ^ i * (y i - q.eval (x i)))
        + |weight (n + 2) x i| * ((-1) ^ i * (q - p).eval (x i)) := fun i hi => by
    rw [eval_sub, ← mul_add, ← mul_add, sub_add_sub_cancel, hlev i (mem_range_succ_iff.mp hi), ← mul_assoc ((-1) ^ i),
      alt_sq, one_mul, mul_comm]
  have key : h * ∑ i ∈ range (n + 2), |weight (n + 2) x i|
      = ∑ i ∈ range (n + 2), |weight (n + 2) x i| * ((-1) ^ i * (y i - q.eval (x i))) := by
    rw [Finset.mul_sum, Finset.sum_congr rfl hterm, Finset.sum_add_distrib, hA, add_zero]
  unfold lam
  simp_rw [div_mul_eq_mul_div]
  rw [← Finset.sum_div, ← key, mul_div_assoc, div_self (sumAbs_pos hx).ne', mul_one]

/-- `σ h` is the `λ`-mean of the numbers `σ (−1)^i e_i = |e_i| ≥ 0` (`e_i = y_i − q(x_i)`) -/
theorem abs_levelled_of_alternating (y : ℕ → F)
    (p : F[X]) (hp : p.natDegree ≤ n) (h : F)
    (hlev : ∀ i, i ≤ n + 1 → y i - p.eval (x i) = (-1) ^ i * h)
    (q : F[X]) (hq : q.natDegree ≤ n) (σ : F) (hσ : |σ| = 1)
    (halt : ∀ i, i ≤ n + 1 → 0 ≤ σ * (-1) ^ i * (y i - q.eval (x i))) :
    |h| = ∑ i ∈ range (n + 2), lam n x i * |y i - q.eval (x i)| := by
  have hterm : ∀ i ∈ range (n + 2), lam n x i * |y i - q.eval (x i)|
      = lam n x i * (σ * (-1) ^ i * (y i - q.eval (x i))) := fun i hi => by
    rw [← abs_of_nonneg (halt i (mem_range_succ_iff.mp hi)), abs_sign_alt_mul hσ]
  have hsum : σ * h = ∑ i ∈ range (n + 2), lam n x i * |y i - q.eval (x i)| := by
    rw [Finset.sum_congr rfl hterm, weighted_mean_of_levelled hx y p hp h hlev q hq, Finset.mul_sum]
    exact Finset.sum_congr rfl fun i _ => by ring
  rw [← hsum, ← one_mul |h|, ← hσ, ← abs_mul]
  refine abs_of_nonneg ?_
  rw [hsum]
  exact Finset.sum_nonneg fun i hi =>
    mul_nonneg (lam_pos hx i (mem_range_succ_iff.mp hi)).le (abs_nonneg _)

theorem mean_mono (a b : ℕ → F)
    (h : ∀ i, i ≤ n + 1 → a i ≤ b i) :
    ∑ i ∈ range (n + 2), lam n x i * a i ≤ ∑ i ∈ range (n + 2), lam n x i * b i :=
  Finset.sum_le_sum fun i hi =>
    mul_le_mul_of_nonneg_left (h i (mem_range_succ_iff.mp hi)) (lam_pos hx i (mem_range_succ_iff.mp hi)).le

theorem mean_strictMono (a b : ℕ → F)
    (h : ∀ i, i ≤ n + 1 → a i ≤ b i) (hs : ∃ i, i ≤ n + 1 ∧ a i < b i) :
    ∑ i ∈ range (n + 2), lam n x i * a i < ∑ i ∈ range (n + 2), lam n x i * b i := by
  obtain ⟨k, hk, hlt⟩ := hs
  exact Finset.sum_lt_sum (fun i hi =>
      mul_le_mul_of_nonneg_left (h i (mem_range_succ_iff.mp hi)) (lam_pos hx i (mem_range_succ_iff.mp hi)).le)
    ⟨k, mem_range_succ_iff.mpr hk, mul_lt_mul_of_pos_left hlt (lam_pos hx k hk)⟩

theorem abs_levelled_bounds_of_alternating (y : ℕ → F)
    (p : F[X]) (hp : p.natDegree ≤ n) (h : F)
    (hlev : ∀ i, i ≤ n + 1 → y i - p.eval (x i) = (-1) ^ i * h)
    (q : F[X]) (hq : q.natDegree ≤ n) (σ : F) (hσ : |σ| = 1)
    (halt : ∀ i, i ≤ n + 1 → 0 ≤ σ * (-1) ^ i * (y i - q.eval (x i))) :
    (∀ H, (∀ i, i ≤ n + 1 → H ≤ |y i - q.eval (x i)|) → H ≤ |h|) ∧
    (∀ H, (∀ i, i ≤ n + 1 → H ≤ |y i - q.eval (x i)|) → (∃ i, i ≤ n + 1 ∧ H < |y i - q.eval (x i)|) → H < |h|) ∧
    (∀ M, (∀ i, i ≤ n + 1 → |y i - q.eval (x i)| ≤ M) → |h| ≤ M) ∧
    (∃ i, i ≤ n + 1 ∧ |y i - q.eval (x i)| ≤ |h|) ∧ (∃ i, i ≤ n + 1 ∧ |h| ≤ |y i - q.eval (x i)|) := by
  have habs := abs_levelled_of_alternating hx y p hp h hlev q hq σ hσ halt
  have hc : ∀ H : F, ∑ i ∈ range (n + 2), lam n x i * H = H := fun H => by
    rw [← Finset.sum_mul, lam_sum hx, one_mul]
  have lower : ∀ H, (∀ i, i ≤ n + 1 → H ≤ |y i - q.eval (x i)|) → (∃ i, i ≤ n + 1 ∧ H < |y i - q.eval (x i)|) →
      H < |h| := fun H hH hs => (hc H).symm.trans_lt ((mean_strictMono hx _ _ hH hs).trans_eq habs.symm)
  have upper : ∀ M, (∀ i, i ≤ n + 1 → |y i - q.eval (x i)| ≤ M) → (∃ i, i ≤ n + 1 ∧ |y i - q.eval (x i)| < M) →
      |h| < M := fun M hM hs => habs.trans_lt ((mean_strictMono hx _ _ hM hs).trans_eq (hc M))
  refine ⟨fun H hH => ?_, lower, fun M hM => ?_, ?_, ?_⟩
  · exact (hc H).symm.trans_le ((mean_mono hx _ _ hH).trans_eq habs.symm)
  · exact habs.trans_le ((mean_mono hx _ _ hM).trans_eq (hc M))
  -- if all `|e_i|` were above (below) `|h|`, the strict bound would give `|h| < |h|`
  · by_contra hno
    push Not at hno
    exact lt_irrefl _ (lower |h| (fun i hi => (hno i hi).le) ⟨0, by omega, hno 0 (by omega)⟩)
  · by_contra hno
    push Not at hno
    exact lt_irrefl _ (upper |h| (fun i hi => (hno i hi).le) ⟨0, by omega, hno 0 (by omega)⟩)

end Ord

section Model
variable {F : Type} [Field F] [DecidableEq F]

noncomputable def levelPoly (n : ℕ) (v y : ℕ → F) : F[X] :=
  Lagrange.interpolate (range (n + 1)) v (levelVals n v y)

theorem levelP_eq_eval (n : ℕ) (v y : ℕ → F) (hv : Set.InjOn v (range (n + 1) : Finset ℕ)) (t : F) :
    levelP n v y t = (levelPoly n v y).eval t :=
  eval_eq_interpolate (n + 1) v _ hv t

theorem natDegree_levelPoly (n : ℕ) (v y : ℕ → F) (hv : Set.InjOn v (range (n + 1) : Finset ℕ)) :
    (levelPoly n v y).natDegree ≤ n := natDegree_interpolate_le n v _ hv

variable [LinearOrder F] [IsStrictOrderedRing F]

theorem levelP_error_of_strictMono (n : ℕ) (v y : ℕ → F) (hx : StrictMonoOn v (Set.Iic (n + 1)))
    (i : ℕ) (hi : i ≤ n + 1) : y i - levelP n v y (v i) = altSign i * levelH n v y :=
  levelP_error n v y (injOn_of_strictMonoOn hx (n + 1) (by omega)) (den_ne_zero_model hx) i hi

theorem levelPoly_levelled (n : ℕ) (v y : ℕ → F) (hx : StrictMonoOn v (Set.Iic (n + 1))) (i : ℕ) (hi : i ≤ n + 1) :
    y i - (levelPoly n v y).eval (v i) = (-1) ^ i * levelH n v y := by
  rw [← levelP_eq_eval n v y (injOn_of_strictMonoOn hx (n + 1) (by omega)), ← altSign_eq]
  exact levelP_error_of_strictMono n v y hx i hi

end Model

theorem levelled_error_of_strictMono (n : ℕ) (v : ℕ → ℝ) (hx : StrictMonoOn v (Set.Iic (n + 1))) (f : ℝ → ℝ) :
    let p0 := Lagrange.interpolate (range (n+1)) v (fun i => f (v i))
    let p1 := Lagrange.interpolate (range (n+1)) v (fun i => (-1:ℝ)^i)
    let h := (eval (v (n+1)) p0 - f (v (n+1))) / (eval (v (n+1)) p1 + (-1)^n)
    let p := Lagrange.interpolate (range (n+1)) v (fun i => f (v i) - h * (-1)^i)
    ∀ i, i ≤ n+1 → f (v i) - eval (v i) p = (-1)^i * h :=
  Opda.Remez.levelled_error n v (injOn_of_strictMonoOn hx (n + 1) (by omega)) f (den_ne_zero hx)

end Opda.Exchange

open Polynomial in
theorem dvp (n : ℕ) (f : ℝ → ℝ) (p q : ℝ[X]) (hp : p.natDegree ≤ n) (hq : q.natDegree ≤ n)
    (x : Fin (n+2) → ℝ) (hx : StrictMono x) (e σ : ℝ)
    (halt : ∀ i : Fin (n+2), e ≤ σ * (-1)^(i:ℕ) * (f (x i) - p.eval (x i))) (hσ : |σ| = 1) :
    ∃ i, e ≤ |f (x i) - q.eval (x i)| := by
  have hval : ∀ i, i ≤ n + 1 → (Fin.ofNat (n + 2) i : ℕ) = i := fun i hi =>
    Nat.mod_eq_of_lt (Nat.lt_succ_iff.mpr hi)
  obtain ⟨i, _, hi⟩ := Opda.Exchange.dvp_ordered (x := fun i => x (Fin.ofNat (n + 2) i))
    (fun i hi j hj hij => hx (by rw [Fin.lt_def, hval i hi, hval j hj]; exact hij))
    (fun i => f (x (Fin.ofNat (n + 2) i))) p q hp hq e σ hσ
    fun i hi => by simpa only [hval i hi] using halt (Fin.ofNat (n + 2) i)
  exact ⟨_, hi⟩

#print axioms dvp

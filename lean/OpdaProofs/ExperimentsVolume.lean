import OpdaProofs.Experiments
import Mathlib.MeasureTheory.Measure.Lebesgue.VolumeOfBalls
import Mathlib.MeasureTheory.Measure.Lebesgue.EqHaar
import Mathlib.LinearAlgebra.Matrix.ToLin
import Mathlib.Analysis.Matrix.Spectrum
import Mathlib.Analysis.Matrix.PosDef
import Mathlib.Probability.ConditionalProbability
import Mathlib.Tactic

/-!
C20: the volume formula behind `ellipse_volume` and `get_approximation_parameters` is *derived* from
Mathlib's Lebesgue measure on `Fin d → ℝ` (`EuclideanSpace.volume_closedBall`, transported along the measure
preserving `WithLp.toLp 2`, and `Measure.addHaar_preimage_linearMap`, the `|det|` scaling), not assumed.
The ellipsoid with centre `x₀` and semi-axes `c_i √t` along the columns of an orthogonal `Q`, closed or open, has Lebesgue
volume `ellipse_volume(c) · t^{d/2}`; the level sets of `f(x) = b − ½ (x−x₀)ᵀ A (x−x₀)`, `A = Q diag(μ) Qᵀ`, `μ > 0`, are
such ellipsoids, with `c_i = (2/μ_i)^{1/2}` and `t = b − y`; so for `X` uniform on a box, an event inside the box with the
volume of the level ellipsoid at `y` has probability `1 − cdf(y)` for the concave quadratic distribution with the
parameters the model of `get_approximation_parameters` returns.
-/
open MeasureTheory Real Matrix

namespace Opda.ExpVol
open Opda Opda.Exp

variable {d : ℕ}

theorem sqrt_pow_eq_rpow (x : ℝ) (hx : 0 ≤ x) (d : ℕ) : √x ^ d = x ^ ((d : ℝ) / 2) := by
  rw [Real.rpow_div_two_eq_sqrt _ hx, Real.rpow_natCast]

theorem volume_coord_ball [NeZero d] (t : ℝ) (ht : 0 ≤ t) :
    volume {z : Fin d → ℝ | ∑ i, z i ^ 2 ≤ t} = ENNReal.ofReal (ballCoeff d * t ^ ((d : ℝ) / 2))
      ∧ volume {z : Fin d → ℝ | ∑ i, z i ^ 2 < t} = ENNReal.ofReal (ballCoeff d * t ^ ((d : ℝ) / 2)) := by
  -- the balls of radius `√t` of `EuclideanSpace`, pulled back along the measure preserving `WithLp.toLp 2`
  have hc := ((PiLp.volume_preserving_toLp (Fin d)).measure_preimage measurableSet_closedBall.nullMeasurableSet).trans
    (EuclideanSpace.volume_closedBall (Fin d) 0 √t)
  have ho := ((PiLp.volume_preserving_toLp (Fin d)).measure_preimage measurableSet_ball.nullMeasurableSet).trans
    (EuclideanSpace.volume_ball (Fin d) 0 √t)
  rw [EuclideanSpace.closedBall_zero_eq _ (sqrt_nonneg t)] at hc
  rw [EuclideanSpace.ball_zero_eq _ (sqrt_nonneg t)] at ho
  simp only [Set.preimage_ofPred_eq, Fintype.card_fin, Real.sq_sqrt ht] at hc ho
  have e : ENNReal.ofReal √t ^ d * ENNReal.ofReal (√π ^ d / Real.Gamma ((d : ℝ) / 2 + 1))
      = ENNReal.ofReal (ballCoeff d * t ^ ((d : ℝ) / 2)) := by
    rw [← ENNReal.ofReal_pow (sqrt_nonneg t), ← ENNReal.ofReal_mul (pow_nonneg (sqrt_nonneg t) _),
      sqrt_pow_eq_rpow π Real.pi_pos.le, sqrt_pow_eq_rpow t ht, ballCoeff, mul_comm]
  exact ⟨hc.trans e, ho.trans e⟩

theorem volume_affine_preimage (T : (Fin d → ℝ) →ₗ[ℝ] (Fin d → ℝ)) (hT : LinearMap.det T ≠ 0) (x₀ : Fin d → ℝ)
    (S : Set (Fin d → ℝ)) :
    volume {x : Fin d → ℝ | T (x - x₀) ∈ S} = ENNReal.ofReal |(LinearMap.det T)⁻¹| * volume S :=
  (measure_preimage_add_right volume (-x₀) (T ⁻¹' S)).trans (Measure.addHaar_preimage_linearMap _ hT S)

theorem abs_det_of_orthogonal (Q : Matrix (Fin d) (Fin d) ℝ) (hQ : Qᵀ * Q = 1) : |Q.det| = 1 := by
  have h : Q.det * Q.det = 1 := by
    have := congrArg Matrix.det hQ
    rwa [det_mul, det_transpose, det_one] at this
  exact (abs_eq zero_le_one).mpr (mul_self_eq_one_iff.mp h)

theorem ellipseVolume_ofFn (c : Fin d → ℝ) : ellipseVolume (List.ofFn c) = ballCoeff d * ∏ i, c i := by
  rw [ellipseVolume_eq, List.length_ofFn, List.prod_ofFn]; rfl

theorem volume_rotated_ellipsoid [NeZero d] (Q : Matrix (Fin d) (Fin d) ℝ) (hQ : Qᵀ * Q = 1) (c : Fin d → ℝ)
    (hc : ∀ i, 0 < c i) (x₀ : Fin d → ℝ) (t : ℝ) (ht : 0 ≤ t) :
    volume {x | ∑ i, ((Qᵀ *ᵥ (x - x₀)) i / c i) ^ 2 ≤ t} = ENNReal.ofReal (ellipseVolume (List.ofFn c) * t ^ ((d : ℝ) / 2))
      ∧ volume {x | ∑ i, ((Qᵀ *ᵥ (x - x₀)) i / c i) ^ 2 < t}
        = ENNReal.ofReal (ellipseVolume (List.ofFn c) * t ^ ((d : ℝ) / 2)) := by
  -- both sets are the preimage of a ball under `x ↦ T (x − x₀)`, `T = diag(1/c) Qᵀ`, `|det T|⁻¹ = ∏ c`
  let T : (Fin d → ℝ) →ₗ[ℝ] (Fin d → ℝ) := Matrix.toLin' (diagonal (fun i => (c i)⁻¹) * Qᵀ)
  have hT : ∀ v i, T v i = (Qᵀ *ᵥ v) i / c i := fun v i => by
    simp only [T, Matrix.toLin'_apply, ← mulVec_mulVec, mulVec_diagonal, inv_mul_eq_div]
  have hp : 0 < ∏ i, c i := Finset.prod_pos fun i _ => hc i
  have hdet : |(LinearMap.det T)⁻¹| = ∏ i, c i := by
    rw [LinearMap.det_toLin', det_mul, det_diagonal, det_transpose,  -- the Jacobian: `det T = (∏ 1/c_i) · det Q`
      abs_inv, abs_mul, abs_det_of_orthogonal Q hQ, mul_one, Finset.prod_inv_distrib, abs_inv, inv_inv, abs_of_pos hp]
  have hdet0 : LinearMap.det T ≠ 0 := fun h => by rw [h, _root_.inv_zero, abs_zero] at hdet; exact hp.ne hdet
  have key : ∀ S : Set (Fin d → ℝ), volume S = ENNReal.ofReal (ballCoeff d * t ^ ((d : ℝ) / 2)) →
      volume {x | T (x - x₀) ∈ S} = ENNReal.ofReal (ellipseVolume (List.ofFn c) * t ^ ((d : ℝ) / 2)) := fun S hS => by
    rw [volume_affine_preimage T hdet0, hS, hdet, ← ENNReal.ofReal_mul hp.le, ellipseVolume_ofFn]
    congr 1; ring
  simp only [← hT]
  exact ⟨key _ (volume_coord_ball t ht).1, key _ (volume_coord_ball t ht).2⟩

def quadForm (A : Matrix (Fin d) (Fin d) ℝ) (v : Fin d → ℝ) : ℝ := v ⬝ᵥ (A *ᵥ v)

theorem quadForm_rotated (Q : Matrix (Fin d) (Fin d) ℝ) (μ : Fin d → ℝ) (v : Fin d → ℝ) :
    quadForm (Q * diagonal μ * Qᵀ) v = ∑ i, μ i * ((Qᵀ *ᵥ v) i) ^ 2 := by
  unfold quadForm
  rw [← mulVec_mulVec, ← mulVec_mulVec, dotProduct_mulVec, ← mulVec_transpose]
  simp only [dotProduct, mulVec_diagonal]
  apply Finset.sum_congr rfl
  intro i _
  ring

/-- `A` is the curvature matrix: the Hessian is `−A` -/
noncomputable def quadObjective (A : Matrix (Fin d) (Fin d) ℝ) (x₀ : Fin d → ℝ) (b : ℝ) (x : Fin d → ℝ) : ℝ :=
  b - 1 / 2 * quadForm A (x - x₀)

def hessEigs (μ : Fin d → ℝ) : List ℝ := List.ofFn fun i => -μ i

def boundsList (lo hi : Fin d → ℝ) : List (ℝ × ℝ) := List.ofFn fun i => (lo i, hi i)

theorem axes_hessEigs (μ : Fin d → ℝ) : axes (hessEigs μ) = List.ofFn fun i => √(2 / μ i) := by
  rw [axes_eq, hessEigs, List.map_ofFn]
  simp only [Function.comp_def, neg_neg]

theorem boxVolume_boundsList (lo hi : Fin d → ℝ) : boxVolume (boundsList lo hi) = ∏ i, (hi i - lo i) := by
  rw [boxVolume_eq, boundsList, List.map_ofFn, List.prod_ofFn]
  rfl

theorem volume_box (lo hi : Fin d → ℝ) (h : ∀ i, lo i ≤ hi i) :
    volume (Set.Icc lo hi) = ENNReal.ofReal (boxVolume (boundsList lo hi)) := by
  rw [Real.volume_Icc_pi, boxVolume_boundsList, ENNReal.ofReal_prod_of_nonneg fun i _ => sub_nonneg.mpr (h i)]

theorem hessEigs_neg (μ : Fin d → ℝ) (hμ : ∀ i, 0 < μ i) : ∀ l ∈ hessEigs μ, l < 0 :=
  List.forall_mem_ofFn_iff.mpr fun i => neg_neg_of_pos (hμ i)

theorem boundsList_lt (lo hi : Fin d → ℝ) (h : ∀ i, lo i < hi i) : ∀ p ∈ boundsList lo hi, p.1 < p.2 :=
  List.forall_mem_ofFn_iff.mpr h

theorem quadObjective_rotated (Q : Matrix (Fin d) (Fin d) ℝ) (μ : Fin d → ℝ) (hμ : ∀ i, 0 < μ i) (x₀ : Fin d → ℝ)
    (b : ℝ) (x : Fin d → ℝ) :
    quadObjective (Q * diagonal μ * Qᵀ) x₀ b x = b - ∑ i, ((Qᵀ *ᵥ (x - x₀)) i / √(2 / μ i)) ^ 2 := by
  rw [quadObjective, quadForm_rotated, Finset.mul_sum]
  congr 1
  refine Finset.sum_congr rfl fun i _ => ?_
  rw [div_pow, Real.sq_sqrt (div_pos two_pos (hμ i)).le, div_div_eq_mul_div]
  ring

theorem measurableSet_superlevel (A : Matrix (Fin d) (Fin d) ℝ) (x₀ : Fin d → ℝ) (b y : ℝ) :
    MeasurableSet {x | y ≤ quadObjective A x₀ b x} ∧ MeasurableSet {x | y < quadObjective A x₀ b x} := by
  have hc : Continuous (quadObjective A x₀ b) := by
    unfold quadObjective quadForm
    simp only [dotProduct, mulVec]
    fun_prop
  exact ⟨(isClosed_le continuous_const hc).measurableSet, (isOpen_lt continuous_const hc).measurableSet⟩

theorem cond_box_eq_tail [NeZero d] (μ : Fin d → ℝ) (hμ : ∀ i, 0 < μ i) (b : ℝ) (lo hi : Fin d → ℝ)
    (hbox : ∀ i, lo i < hi i) (y : ℝ) (hya : (approxParams b (hessEigs μ) (boundsList lo hi)).1 ≤ y) (hyb : y ≤ b)
    {S : Set (Fin d → ℝ)} (hin : S ⊆ Set.Icc lo hi)
    (hS : volume S = ENNReal.ofReal (ellipseVolume (axes (hessEigs μ)) * (b - y) ^ ((d : ℝ) / 2))) :
    (ProbabilityTheory.cond volume (Set.Icc lo hi)) S
      = ENNReal.ofReal (1 - Quad.cdf (approxDist b (hessEigs μ) (boundsList lo hi)) y) := by
  have hlen : (boundsList lo hi).length = d := List.length_ofFn
  have key := tail_exact_model b (hessEigs μ) (boundsList lo hi) (by rw [hlen]; exact NeZero.pos d) (hessEigs_neg μ hμ)
    (boundsList_lt lo hi hbox) y hya hyb
  rw [hlen] at key
  -- `P[S] = vol(S ∩ box) / vol(box) = K·(b−y)^{d/2} / vol(box)`, the left side of `key`
  rw [ProbabilityTheory.cond_apply measurableSet_Icc, Set.inter_eq_right.mpr hin, hS,
    volume_box lo hi (fun i => (hbox i).le), ← key,
    ENNReal.ofReal_div_of_pos (boxVolume_pos (boundsList_lt lo hi hbox)), ENNReal.div_eq_inv_mul]

/-- containment for axis-aligned curvature, half-extent `√(2(b−y)/μ_i)` along axis `i`.  The matrix is written
`1 * diagonal μ * 1ᵀ`: the `Q = 1` instance of the `Q * diagonal μ * Qᵀ` in which the level-set statements of
`Props/C20.lean` are phrased, so that this is their containment hypothesis verbatim (for `Q ≠ 1` the ellipsoid is tilted
and these half-extents do not bound it) -/
theorem superlevel_subset_box_diag (μ : Fin d → ℝ) (hμ : ∀ i, 0 < μ i) (x₀ : Fin d → ℝ) (b y : ℝ)
    (lo hi : Fin d → ℝ)
    (hfit : ∀ i, lo i ≤ x₀ i - √(2 * (b - y) / μ i) ∧ x₀ i + √(2 * (b - y) / μ i) ≤ hi i) :
    {x | y ≤ quadObjective ((1 : Matrix (Fin d) (Fin d) ℝ) * diagonal μ * (1 : Matrix (Fin d) (Fin d) ℝ)ᵀ) x₀ b x}
      ⊆ Set.Icc lo hi := by
  intro x hx
  simp only [Set.mem_ofPred_eq, quadObjective] at hx
  rw [quadForm_rotated] at hx
  simp only [transpose_one, one_mulVec, Pi.sub_apply] at hx
  have hsum : ∑ i, μ i * (x i - x₀ i) ^ 2 ≤ 2 * (b - y) := by linarith
  have hi' : ∀ i, |x i - x₀ i| ≤ √(2 * (b - y) / μ i) := by
    intro i
    apply Real.abs_le_sqrt
    rw [le_div_iff₀ (hμ i), mul_comm]
    exact (Finset.single_le_sum (f := fun j => μ j * (x j - x₀ j) ^ 2)
      (fun j _ => mul_nonneg (hμ j).le (sq_nonneg _)) (Finset.mem_univ i)).trans hsum
  rw [Set.mem_Icc, Pi.le_def, Pi.le_def]
  exact ⟨fun i => (hfit i).1.trans (sub_le_iff_le_add.mpr (neg_le_sub_iff_le_add.mp (abs_le.mp (hi' i)).1)),
    fun i => (sub_le_iff_le_add'.mp (abs_le.mp (hi' i)).2).trans (hfit i).2⟩

/-- non-vacuity of `tail_exact_uniform`: in `d = 1` with `f(x) = 1 − x²` on the box `[−1, 1]` there is a level `y < b`
with `a ≤ y` whose level set lies in the box -/
theorem tail_exact_uniform_nonvacuous :
    ∃ y : ℝ, y < 1 ∧ (approxParams (1 : ℝ) (hessEigs (fun _ : Fin 1 => (2 : ℝ))) (boundsList (fun _ : Fin 1 => (-1 : ℝ)) (fun _ => 1))).1 ≤ y
      ∧ {x | y ≤ quadObjective ((1 : Matrix (Fin 1) (Fin 1) ℝ) * diagonal (fun _ => (2 : ℝ)) * (1 : Matrix (Fin 1) (Fin 1) ℝ)ᵀ) 0 1 x}
          ⊆ Set.Icc (fun _ : Fin 1 => (-1 : ℝ)) (fun _ => 1) := by
  -- `y = max a 0`: the level set of any `y ∈ [0, 1)` is `|x| ≤ √(1 − y) ≤ 1`
  have fit : ∀ y : ℝ, 0 ≤ y → (-1 : ℝ) ≤ 0 - √(2 * (1 - y) / 2) ∧ 0 + √(2 * (1 - y) / 2) ≤ 1 := fun y h0 => by
    have hs : √(2 * (1 - y) / 2) ≤ 1 := Real.sqrt_le_one.mpr (by linarith)
    rw [zero_sub, zero_add]
    exact ⟨neg_le_neg hs, hs⟩
  exact ⟨max _ 0, max_lt (approxParams_a_lt_b (1 : ℝ) (hessEigs_neg _ fun _ => two_pos)
    (boundsList_lt _ _ fun _ => by norm_num)) one_pos, le_max_left _ _,
    superlevel_subset_box_diag _ (fun _ => two_pos) _ _ _ _ _ fun _ => fit _ (le_max_right _ _)⟩

end Opda.ExpVol

import OpdaModel.NoisyFloat
import OpdaProofs.NoisyBisect
import OpdaProofs.NoisyLogic
import OpdaProofs.NoisyReal
import OpdaProofs.NoisyConv
import Mathlib.Probability.Moments.Basic
import Mathlib.Analysis.SpecialFunctions.Pow.Real
import Mathlib.Analysis.Complex.ExponentialBounds
import Mathlib.Tactic

/-!
C07, accuracy clause (series regime, exact real arithmetic): bisection on a cdf that is only *close to* a
monotone Lipschitz function.

For odd `c` the model's cdf `F` is a piecewise-polynomial approximation, within `ε = 1.02·max_error` of the Spec `G`
(`cdfSpec`, the mixture form of the law of the sum; C06 ∘ C19) at every real `y`, and is not itself provably monotone.  The
returned midpoint `y` still has `|G y − q| ≤ ε + L·w + tail`, `w` the final bracket width, and so `|F y − q| ≤ 2ε + L·w + tail`
(the argument stands at `run_accuracy_robust_spec`, `NoisyBisect.lean`).  For even `c` the
model's cdf *is* the Spec and `ε = 0` (`NoisyAccuracy.lean`).  The generic statement for `Bisect.run` is in
`NoisyBisect.lean`, its reading on the model's bracket (`ppfBisect_accuracy_robust`) in `NoisyLogic.lean`; the tail is at most `Φ(−6) ≤ e^{−18} ≤ 2e-8` (Chernoff).
-/
namespace Opda.Noisy

open MeasureTheory ProbabilityTheory Real Set
open scoped NNReal

/-- Chernoff bound for the standard normal -/
theorem Phi_neg_le_exp (t : ℝ) (ht : 0 ≤ t) : Phi (-t) ≤ Real.exp (-(t ^ 2) / 2) := by
  have h := measure_le_le_exp_mul_mgf (μ := gaussianReal 0 1) (X := id) (t := -t) (-t)
    (neg_nonpos.mpr ht) (integrable_exp_mul_gaussianReal (-t))
  rw [mgf_id_gaussianReal] at h
  have e : Real.exp (- -t * -t) * Real.exp ((0:ℝ) * -t + ((1:ℝ≥0):ℝ) * (-t) ^ 2 / 2) = Real.exp (-(t ^ 2) / 2) := by
    rw [← Real.exp_add]; congr 1; simp; ring
  rw [e] at h
  exact h

/-- `Φ(−6) ≤ e^{−18} ≤ 2e-8` (the true value is `9.9e-10`): the mass the bracket `[a−6o, b+6o]` may cut off on either side -/
theorem Phi_neg_six_le : Phi (-6) ≤ 1 / 50000000 := by
  have h18 : (50000000 : ℝ) ≤ Real.exp 18 := by
    rw [show (18:ℝ) = ((18:ℕ):ℝ) * 1 by norm_num, Real.exp_nat_mul]
    exact (by norm_num : (50000000 : ℝ) ≤ (27 / 10) ^ 18).trans
      (pow_le_pow_left₀ (by norm_num) (by linarith [Real.exp_one_gt_d9]) 18)
  refine (Phi_neg_le_exp 6 (by norm_num)).trans ?_
  rw [show (-(6:ℝ) ^ 2 / 2) = -18 by norm_num, Real.exp_neg, ← one_div]
  exact one_div_le_one_div_of_le (by norm_num) h18

section model
variable {T : List (ℕ × List (Entry ℝ))} {ninf pinf : ℝ} {d : Params ℝ} (S : Series T ninf pinf d)
include S

/-- series regime, exact real arithmetic, both shapes, any table; `L` any Lipschitz constant of the Spec; `q ∈ (0,1)` is
where `ppf` returns the bisection result. -/
theorem cdf_ppf_within (hc : 0 < d.c) (L ε : ℝ)
    (hlip : ∀ x y, x ≤ y → cdfSpec d y - cdfSpec d x ≤ L * (y - x))
    (hclose : ∀ y, d.a - 6 * d.o ≤ y → y ≤ d.b + 6 * d.o → |cdf (realFns T ninf pinf) d y - cdfSpec d y| ≤ ε)
    (q : ℝ) (hq0 : 0 < q) (hq1 : q < 1) :
    |cdf (realFns T ninf pinf) d (ppf (realFns T ninf pinf) d q) - q|
      ≤ 2 * ε + L * ((d.b - d.a + 12 * d.o) / 2 ^ 30) + Phi (-6) := by
  have hacc := ppfBisect_accuracy_robust (realFns_lawful T ninf pinf) d (sub_pos.mp S.w_pos).le S.o_pos.le (cdfSpec d) L ε q hclose
    (fun x y _ hxy _ => cdfSpec_mono d S.w_pos S.o_pos hc hxy) (fun x y _ hxy _ => hlip x y hxy)
  obtain ⟨hlo, hhi⟩ := cdfSpec_tails d S.w_pos S.o_pos hc
  have htail : max 0 (max (cdfSpec d (d.a - 6 * d.o) - q) (q - cdfSpec d (d.b + 6 * d.o))) ≤ Phi (-6) :=
    max_le (Normal.Phi_nonneg _) (max_le ((sub_le_self _ hq0.le).trans hlo)
      ((sub_le_sub_right hq1.le _).trans (sub_le_comm.mp hhi)))
  rw [ppf_nothing (realFns_lawful T ninf pinf) d q S.hp S.h, clip_of_mem q 0 1 hq0.le hq1.le,
    if_neg hq0.ne', if_neg hq1.ne]
  exact hacc.trans (add_le_add le_rfl htail)

/-- every `c ≥ 2`, with the Lipschitz constant `(c/2)/(b−a)` of the Spec -/
theorem cdf_ppf_within_of_density (hc : 2 ≤ d.c) (ε : ℝ)
    (hclose : ∀ y, d.a - 6 * d.o ≤ y → y ≤ d.b + 6 * d.o → |cdf (realFns T ninf pinf) d y - cdfSpec d y| ≤ ε)
    (q : ℝ) (hq0 : 0 < q) (hq1 : q < 1) :
    |cdf (realFns T ninf pinf) d (ppf (realFns T ninf pinf) d q) - q|
      ≤ 2 * ε + ((d.c : ℝ) / 2) * (1 + 12 * (d.o / (d.b - d.a))) / 2 ^ 30 + Phi (-6) := by
  have hw := S.w_pos
  have := cdf_ppf_within S (by omega) _ ε (fun x y hxy => cdfSpec_lipschitz d S.w_pos S.o_pos hc hxy) hclose q hq0 hq1
  rwa [show ((d.c : ℝ) / 2) / (d.b - d.a) * ((d.b - d.a + 12 * d.o) / 2 ^ 30)
      = ((d.c : ℝ) / 2) * (1 + 12 * (d.o / (d.b - d.a))) / 2 ^ 30 by
    rw [← mul_div_assoc 12, one_add_div hw.ne']; ring] at this

/-- every `c ≥ 1` (in particular `c = 1`), with the Lipschitz constant `0.4/o` that the noise alone provides -/
theorem cdf_ppf_within_of_noise (hc : 1 ≤ d.c) (ε : ℝ)
    (hclose : ∀ y, d.a - 6 * d.o ≤ y → y ≤ d.b + 6 * d.o → |cdf (realFns T ninf pinf) d y - cdfSpec d y| ≤ ε)
    (q : ℝ) (hq0 : 0 < q) (hq1 : q < 1) :
    |cdf (realFns T ninf pinf) d (ppf (realFns T ninf pinf) d q) - q|
      ≤ 2 * ε + 2 / 5 * (12 + (d.b - d.a) / d.o) / 2 ^ 30 + Phi (-6) := by
  have ho := S.o_pos
  have := cdf_ppf_within S hc _ ε (fun x y hxy => cdfSpec_lipschitz_noise d S.w_pos S.o_pos hc hxy) hclose q hq0 hq1
  rwa [show 2 / 5 / d.o * ((d.b - d.a + 12 * d.o) / 2 ^ 30) = 2 / 5 * (12 + (d.b - d.a) / d.o) / 2 ^ 30 by
    rw [add_div' _ _ _ ho.ne']; ring] at this

end model

end Opda.Noisy

import OpdaProofs.NoisyConv
import OpdaProofs.NoisyTable
import OpdaProofs.NoisySmooth
import OpdaProofs.Sample
import Mathlib.MeasureTheory.Group.Convolution
import Mathlib.MeasureTheory.Measure.Prod
import Mathlib.MeasureTheory.Integral.Bochner.Basic
import Mathlib.MeasureTheory.Integral.IntervalIntegral.IntegrationByParts
import Mathlib.Probability.Independence.Basic
import Mathlib.Probability.Distributions.Gaussian.Real
import Mathlib.Tactic

/-!
C06/C13: from "the law of `Z + E`" to the mixture form — independence + Tonelli, as theorems.  The Spec of C06 is
`P[Z + E ≤ y]`, `Z ~ Quadratic(a, b, c, shape)`, `E ~ N(0, o²)` independent; `NoisyConv.lean` works with its *mixture
form* `H(t) = ∫₀¹ Φ((t − x)/s) d(x^{c/2})` (`Opda.Noisy.mixture`).  The two are the same number:
`(μ ∗ ν)(−∞, y] = ∫⁻ ν(−∞, y − z] dμ(z)` (Tonelli for the product measure under `+`), `N(0, o²)(−∞, x] = Φ(x/o)` with the
development's `Φ`, and the law `quadLaw d` of `Z` is the push-forward of the uniform law on `[0,1)` under
`Opda.Sample.noisyQuadPart`, the function the `sample` method applies (its distribution function is the class's `cdf`, from
C13's `quad_sample_law`), so that by the substitution `x = u^{1/p}` (`p = c/2 > 0`; singular derivative at `0` for `c = 1`
allowed) integrals against it are integrals against `d(x^{c/2})`.  Hence `P[Z + E ≤ y]` is the Spec for *any* independent
`Z`, `E` with those laws on any probability space, in particular for the draw `NoisyQuadraticDistribution.sample`
computes.  Conditioning on `E` instead (`conv_comm`), the quantity the noiseless-regime bounds compare with,
`∫ cdf_noise-free(y − e) dN(0, o²)(e)`, is `P[Z + E ≤ y]` too.  Density: `μ ∗ N(0, o²)` has the Lebesgue density
`t ↦ ∫ dN(z, o²)(t) dμ(z)`, which for `μ = quadLaw d` is the Spec of the C06 density theorems.
-/
namespace Opda.NoisyLaw
open MeasureTheory ProbabilityTheory Set Real Opda Opda.Sample Opda.Noisy
open scoped ENNReal NNReal

theorem conv_Iic (μ ν : Measure ℝ) [SFinite μ] [SFinite ν] (y : ℝ) :
    (μ ∗ ν) (Iic y) = ∫⁻ z, ν (Iic (y - z)) ∂μ := by
  have hm : MeasurableSet (Iic y) := measurableSet_Iic
  rw [← lintegral_indicator_one hm, Measure.lintegral_conv (by exact (measurable_one.indicator hm))]
  refine lintegral_congr fun z => ?_
  have : (fun e : ℝ => (Iic y).indicator (1 : ℝ → ℝ≥0∞) (z + e)) = (Iic (y - z)).indicator 1 := by
    funext e
    simp only [indicator, mem_Iic, Pi.one_apply]
    congr 1
    exact propext le_sub_iff_add_le'.symm
  rw [this, lintegral_indicator_one measurableSet_Iic]

theorem indep_add_Iic {Ω : Type} [MeasurableSpace Ω] (P : Measure Ω) [IsFiniteMeasure P] (X Y : Ω → ℝ)
    (hX : Measurable X) (hY : Measurable Y) (hind : IndepFun X Y P) (y : ℝ) :
    P {ω | X ω + Y ω ≤ y} = ∫⁻ z, (P.map Y) (Iic (y - z)) ∂(P.map X) := by
  have h := hind.map_add_eq_map_conv_map hX hY
  have hs : {ω | X ω + Y ω ≤ y} = (X + Y) ⁻¹' Iic y := rfl
  rw [hs, ← Measure.map_apply (hX.add hY) measurableSet_Iic, h, conv_Iic]

theorem gaussian_Iic (o : ℝ) (ho : 0 < o) (x : ℝ) :
    gaussianReal 0 (NNReal.mk (o ^ 2) (sq_nonneg o)) (Iic x) = ENNReal.ofReal (Phi (x / o)) := by
  have hm : Measurable (fun z : ℝ => o * z) := measurable_const.mul measurable_id
  rw [← gaussianReal_map_const_mul_std, Measure.map_apply hm measurableSet_Iic]
  have : (fun z => o * z) ⁻¹' Iic x = Iic (x / o) := by
    ext z; simp only [mem_preimage, mem_Iic]; rw [le_div_iff₀ ho, mul_comm]
  rw [this, Phi, ENNReal.ofReal_toReal (measure_ne_top _ _)]

/-- the mixture form for an arbitrary law `μ` of `Z` -/
theorem conv_gaussian_Iic (μ : Measure ℝ) [IsFiniteMeasure μ] (o : ℝ) (ho : 0 < o) (y : ℝ) :
    ((μ ∗ gaussianReal 0 (NNReal.mk (o ^ 2) (sq_nonneg o))) (Iic y)).toReal = ∫ z, Phi ((y - z) / o) ∂μ := by
  rw [conv_Iic]
  simp only [gaussian_Iic o ho]
  rw [integral_eq_lintegral_of_nonneg_ae (Filter.Eventually.of_forall fun z => Normal.Phi_nonneg _)
    (continuous_Phi_comp o y).aestronglyMeasurable]

/-- the uniform law on `[0, 1)`: what `Generator.uniform(0, 1)` documents -/
noncomputable def uniform01 : Measure ℝ := volume.restrict (Ico 0 1)

instance : IsProbabilityMeasure uniform01 :=
  ⟨by rw [uniform01, Measure.restrict_apply_univ, Real.volume_Ico, sub_zero, ENNReal.ofReal_one]⟩

/-- the law of `Z ~ Quadratic(a, b, c, shape)`: the image of the uniform law under the quadratic part of a draw -/
noncomputable def quadLaw (d : Opda.Quad.Params ℝ) : Measure ℝ := uniform01.map (noisyQuadPart d)

instance (d : Opda.Quad.Params ℝ) : IsProbabilityMeasure (quadLaw d) :=
  Measure.isProbabilityMeasure_map (measurable_noisyQuadPart d).aemeasurable

theorem quadLaw_Iic (d : Opda.Quad.Params ℝ) (hab : d.a < d.b) (hc : 0 < d.c) (y : ℝ) :
    quadLaw d (Iic y) = ENNReal.ofReal (Opda.Quad.cdf d y) := by
  rw [quadLaw, Measure.map_apply (measurable_noisyQuadPart d) measurableSet_Iic, uniform01,
    Measure.restrict_apply ((measurable_noisyQuadPart d) measurableSet_Iic), ← quad_sample_law d hab hc y]
  congr 1
  ext u
  simp only [mem_inter_iff, mem_preimage, mem_Iic, mem_ofPred_eq]
  constructor
  · rintro ⟨h, hu⟩; exact ⟨hu, by rw [← noisyQuadPart_eq d u hu.1 hu.2.le]; exact h⟩
  · rintro ⟨hu, h⟩; exact ⟨by rw [noisyQuadPart_eq d u hu.1 hu.2.le]; exact h, hu⟩

theorem integral_quadLaw (d : Opda.Quad.Params ℝ) (g : ℝ → ℝ) (hg : Continuous g) :
    ∫ z, g z ∂(quadLaw d) = ∫ u in (0:ℝ)..1, g (noisyQuadPart d u) := by
  rw [quadLaw, integral_map (measurable_noisyQuadPart d).aemeasurable hg.aestronglyMeasurable, uniform01,
    intervalIntegral.integral_of_le zero_le_one, integral_Ico_eq_integral_Ioc]

/-- the substitution `x = u^{1/p}` on `[0, 1]`; for `p < 1` the derivative `p x^{p−1}` is singular at `0` -/
theorem subst_rpow (G : ℝ → ℝ) (hG : Continuous G) (p : ℝ) (hp : 0 < p) :
    ∫ u in (0:ℝ)..1, G (u ^ (1 / p)) = ∫ x in (0:ℝ)..1, G x * (p * x ^ (p - 1)) := by
  have hg : Continuous fun u : ℝ => G (u ^ (1 / p)) :=
    hG.comp (Real.continuous_rpow_const (by positivity))
  have hcomp : Continuous fun x : ℝ => G ((x ^ p) ^ (1 / p)) :=
    hg.comp (Real.continuous_rpow_const hp.le)
  have hint : IntervalIntegrable (fun x : ℝ => G ((x ^ p) ^ (1 / p)) * (p * x ^ (p - 1))) volume 0 1 :=
    (weight_intervalIntegrable hp).continuousOn_mul hcomp.continuousOn
  have key := intervalIntegral.integral_comp_mul_deriv''' (a := 0) (b := 1) (f := fun x : ℝ => x ^ p)
    (f' := fun x : ℝ => p * x ^ (p - 1)) (g := fun u : ℝ => G (u ^ (1 / p)))
    (Real.continuous_rpow_const hp.le).continuousOn
    (fun x hx => by
      have hx0 : 0 < x := by have := hx.1; simpa using this
      exact (Real.hasDerivAt_rpow_const (Or.inl hx0.ne')).hasDerivWithinAt)
    hg.continuousOn
    (hg.continuousOn.integrableOn_compact
      (isCompact_uIcc.image_of_continuousOn (Real.continuous_rpow_const hp.le).continuousOn))
    (by
      rw [uIcc_of_le zero_le_one, integrableOn_Icc_iff_integrableOn_Ioc]
      exact (intervalIntegrable_iff_integrableOn_Ioc_of_le zero_le_one).mp hint)
  simp only [Function.comp, Real.zero_rpow hp.ne', Real.one_rpow] at key
  rw [← key]
  refine intervalIntegral.integral_congr fun x hx => ?_
  rw [uIcc_of_le zero_le_one] at hx
  rw [← Real.rpow_mul hx.1, mul_one_div_cancel hp.ne', Real.rpow_one]

/-- `Z = a + (b−a)X` resp. `b − (b−a)X` with `X = U^{2/c}` resp. `(1−U)^{2/c}`, and `X` has distribution function `x^{c/2}`
on `[0,1]` -/
theorem integral_quadLaw_weight (a b : ℝ) (c : ℕ) (cv : Bool) (hc : 0 < c) (g : ℝ → ℝ) (hg : Continuous g) :
    ∫ z, g z ∂(quadLaw ⟨a, b, c, cv⟩)
      = ∫ x in (0:ℝ)..1, g (if cv then a + (b - a) * x else b - (b - a) * x) * ((c:ℝ) / 2 * x ^ ((c:ℝ) / 2 - 1)) := by
  have hc' : (0:ℝ) < c := by exact_mod_cast hc
  have e : (2:ℝ) / c = 1 / ((c:ℝ) / 2) := by field_simp
  rw [integral_quadLaw _ _ hg]
  cases cv
  · simp only [noisyQuadPart_apply, Bool.false_eq_true, if_false]
    -- reflect the uniform variable, `u ↦ 1 − u`
    rw [intervalIntegral.integral_comp_sub_left (fun v => g (b - (b - a) * v ^ ((2:ℝ) / c))) 1, sub_self, sub_zero, e]
    exact subst_rpow (fun x => g (b - (b - a) * x)) (by fun_prop) _ (by positivity)
  · simp only [noisyQuadPart_apply, if_true]
    rw [e]
    exact subst_rpow (fun x => g (a + (b - a) * x)) (by fun_prop) _ (by positivity)

/-- the law of `Z + E`, `Z ~ Quadratic(a, b, c, shape)` and `E ~ N(0, o²)` independent -/
noncomputable def sumLaw (d : Opda.Noisy.Params ℝ) : Measure ℝ :=
  quadLaw ⟨d.a, d.b, d.c, d.convex⟩ ∗ gaussianReal 0 (NNReal.mk (d.o ^ 2) (sq_nonneg d.o))

instance (d : Opda.Noisy.Params ℝ) : IsProbabilityMeasure (sumLaw d) := by
  unfold sumLaw; infer_instance

theorem spec_is_law (d : Opda.Noisy.Params ℝ) (hab : d.a < d.b) (hc : 1 ≤ d.c) (ho : 0 < d.o) (y : ℝ) :
    cdfSpec d y = ((sumLaw d) (Iic y)).toReal := by
  have hw : 0 < d.b - d.a := sub_pos.mpr hab
  have hp : (0:ℝ) < (d.c : ℝ) / 2 := by positivity
  unfold sumLaw cdfSpec mixture
  rw [conv_gaussian_Iic _ d.o ho, integral_quadLaw_weight _ _ _ _ hc _ (continuous_Phi_comp d.o y)]
  cases d.convex
  · -- `P[b − wX + E ≤ y] = 1 − P[X + E/w ≤ (b−y)/w]`, by `Φ(−z) = 1 − Φ(z)`
    have e : ∀ x : ℝ, Phi ((y - (d.b - (d.b - d.a) * x)) / d.o)
        = 1 - Phi (((d.b - y) / (d.b - d.a) - x) / (d.o / (d.b - d.a))) := fun x => by
      rw [← Normal.Phi_neg, div_sub' hw.ne', div_div_div_cancel_right₀ hw.ne', ← neg_div, neg_sub]; congr 2; ring
    simp only [Bool.false_eq_true, if_false, e]
    simp only [sub_mul, one_mul]
    rw [intervalIntegral.integral_sub (weight_intervalIntegrable hp) (mixture_integrable hp _ _), integral_weight hp]
  · simp only [if_true]
    refine (intervalIntegral.integral_congr fun x _ => ?_).symm
    rw [div_sub' hw.ne', div_div_div_cancel_right₀ hw.ne', sub_sub]

theorem sum_law_is_spec {Ω : Type} [MeasurableSpace Ω] (P : Measure Ω) [IsProbabilityMeasure P] (Z E : Ω → ℝ)
    (hZ : Measurable Z) (hE : Measurable E) (hind : IndepFun Z E P) (d : Opda.Noisy.Params ℝ)
    (hZlaw : P.map Z = quadLaw ⟨d.a, d.b, d.c, d.convex⟩)
    (hElaw : P.map E = gaussianReal 0 (NNReal.mk (d.o ^ 2) (sq_nonneg d.o)))
    (hab : d.a < d.b) (hc : 1 ≤ d.c) (ho : 0 < d.o) (y : ℝ) :
    (P {ω | Z ω + E ω ≤ y}).toReal = cdfSpec d y := by
  rw [indep_add_Iic P Z E hZ hE hind y, ← conv_Iic, hZlaw, hElaw]
  exact (spec_is_law d hab hc ho y).symm

/-- the distribution function of a draw of `NoisyQuadraticDistribution.sample` is the C06 Spec -/
theorem noisy_sample_cdf {Ω : Type} [MeasurableSpace Ω] (P : Measure Ω) [IsProbabilityMeasure P] (U N : Ω → ℝ)
    (hU : Measurable U) (hN : Measurable N) (hind : IndepFun U N P)
    (hUlaw : P.map U = uniform01) (hNlaw : P.map N = gaussianReal 0 1)
    (d : Opda.Quad.Params ℝ) (o : ℝ) (hab : d.a < d.b) (hc : 1 ≤ d.c) (ho : 0 < o) (y : ℝ) :
    (P {ω | noisySample d o (U ω) (N ω) ≤ y}).toReal = cdfSpec ⟨d.a, d.b, d.c, o, d.convex⟩ y := by
  have h := noisy_law P U N hU hN hind hNlaw d o
  have hq : P.map (fun ω => noisyQuadPart d (U ω)) = quadLaw d := by
    have : (fun ω => noisyQuadPart d (U ω)) = noisyQuadPart d ∘ U := rfl
    rw [this, ← Measure.map_map (measurable_noisyQuadPart d) hU, hUlaw, quadLaw]
  have hmeas : Measurable fun ω => noisySample d o (U ω) (N ω) := by
    have : (fun ω => noisySample d o (U ω) (N ω)) = fun ω => noisyQuadPart d (U ω) + o * N ω := by
      funext ω; exact noisySample_eq d o _ _
    rw [this]
    exact ((measurable_noisyQuadPart d).comp hU).add (measurable_const.mul hN)
  have hs : {ω | noisySample d o (U ω) (N ω) ≤ y} = (fun ω => noisySample d o (U ω) (N ω)) ⁻¹' Iic y := rfl
  rw [hs, ← Measure.map_apply hmeas measurableSet_Iic, h, hq,
    spec_is_law ⟨d.a, d.b, d.c, o, d.convex⟩ hab hc ho y, sumLaw]

/-- two laws on `ℝ` are the laws of an independent pair: the coordinates of `ℝ × ℝ` under the product measure -/
theorem exists_indep_pair (μ ν : Measure ℝ) [IsProbabilityMeasure μ] [IsProbabilityMeasure ν] :
    ∃ (P : Measure (ℝ × ℝ)) (_ : IsProbabilityMeasure P) (X Y : ℝ × ℝ → ℝ), Measurable X ∧ Measurable Y
      ∧ IndepFun X Y P ∧ P.map X = μ ∧ P.map Y = ν :=
  ⟨μ.prod ν, inferInstance, Prod.fst, Prod.snd, measurable_fst, measurable_snd,
    indepFun_prod (X := id) (Y := id) measurable_id measurable_id,
    by rw [Measure.map_fst_prod, measure_univ, one_smul], by rw [Measure.map_snd_prod, measure_univ, one_smul]⟩

/-- a pair as in `sum_law_is_spec` exists: the coordinates of `ℝ × ℝ` under the product of the two laws.  (The conclusion is
the statement of the non-vacuity `example` at the end of `Props/C06.lean`, whence the existential `d'`; the witness is `d`.) -/
theorem exists_independent_pair (d : Opda.Noisy.Params ℝ) (hab : d.a < d.b) (hc : 1 ≤ d.c) (ho : 0 < d.o) :
    ∃ (P : Measure (ℝ × ℝ)) (_ : IsProbabilityMeasure P) (Z E : ℝ × ℝ → ℝ) (d' : Opda.Noisy.Params ℝ),
      Measurable Z ∧ Measurable E ∧ IndepFun Z E P
      ∧ P.map Z = quadLaw ⟨d'.a, d'.b, d'.c, d'.convex⟩
      ∧ P.map E = gaussianReal 0 (NNReal.mk (d'.o ^ 2) (sq_nonneg d'.o))
      ∧ d'.a < d'.b ∧ 1 ≤ d'.c ∧ 0 < d'.o := by
  obtain ⟨P, hP, Z, E, hZ, hE, hind, h1, h2⟩ :=
    exists_indep_pair (quadLaw ⟨d.a, d.b, d.c, d.convex⟩) (gaussianReal 0 (NNReal.mk (d.o ^ 2) (sq_nonneg d.o)))
  exact ⟨P, hP, Z, E, d, hZ, hE, hind, h1, h2, hab, hc, ho⟩

/-- likewise a pair as in `noisy_sample_cdf` -/
theorem exists_uniform_normal_pair :
    ∃ (P : Measure (ℝ × ℝ)) (_ : IsProbabilityMeasure P) (U Z : ℝ × ℝ → ℝ), Measurable U ∧ Measurable Z
      ∧ IndepFun U Z P ∧ P.map U = volume.restrict (Ico 0 1) ∧ P.map Z = gaussianReal 0 1 :=
  exists_indep_pair uniform01 (gaussianReal 0 1)

/-- Tonelli + translation invariance -/
theorem conv_withDensity (μ : Measure ℝ) [SFinite μ] (f : ℝ → ℝ≥0∞) (hf : Measurable f) :
    μ ∗ (volume.withDensity f) = volume.withDensity (fun t => ∫⁻ z, f (t - z) ∂μ) := by
  ext s hs
  have hind : Measurable (s.indicator (1 : ℝ → ℝ≥0∞)) := measurable_one.indicator hs
  rw [withDensity_apply _ hs, ← lintegral_indicator_one hs, Measure.lintegral_conv hind]
  have h1 : ∀ z : ℝ, ∫⁻ e, s.indicator (1 : ℝ → ℝ≥0∞) (z + e) ∂(volume.withDensity f)
      = ∫⁻ t, s.indicator (1 : ℝ → ℝ≥0∞) t * f (t - z) := by
    intro z
    have hm : Measurable fun e : ℝ => s.indicator (1 : ℝ → ℝ≥0∞) (z + e) :=
      hind.comp (measurable_const.add measurable_id)
    rw [lintegral_withDensity_eq_lintegral_mul _ hf hm,
      ← lintegral_add_left_eq_self (fun t => s.indicator (1 : ℝ → ℝ≥0∞) t * f (t - z)) z]
    refine lintegral_congr fun e => ?_
    simp only [Pi.mul_apply, add_sub_cancel_left, mul_comm]
  simp only [h1]
  rw [lintegral_lintegral_swap]
  · rw [← lintegral_indicator hs]
    refine lintegral_congr fun t => ?_
    rw [lintegral_const_mul' _ _ (by by_cases h : t ∈ s <;> simp [h])]
    by_cases h : t ∈ s <;> simp [h]
  · apply Measurable.aemeasurable
    apply Measurable.mul
    · exact hind.comp measurable_snd
    · exact hf.comp (measurable_snd.sub measurable_fst)

theorem gaussianPDFReal_scale (o : ℝ) (ho : 0 < o) (e : ℝ) :
    gaussianPDFReal 0 (NNReal.mk (o ^ 2) (sq_nonneg o)) e = o⁻¹ * phiStd (e / o) := by
  rw [Normal.phiStd_eq]
  unfold gaussianPDFReal
  have hv : ((NNReal.mk (o ^ 2) (sq_nonneg o) : ℝ≥0) : ℝ) = o ^ 2 := rfl
  rw [hv, sub_zero]
  have hs : √(2 * π * o ^ 2) = √(2 * π) * o := by
    rw [Real.sqrt_mul (by positivity), Real.sqrt_sq ho.le]
  have he : -e ^ 2 / (2 * o ^ 2) = -(e / o) ^ 2 / 2 := by rw [div_pow, neg_div, neg_div, div_div, mul_comm 2]
  rw [hs, mul_inv, he]; ring

theorem continuous_noiseDens (y o : ℝ) : Continuous fun z : ℝ => o⁻¹ * phiStd ((y - z) / o) := by
  have := Normal.continuous_phiStd; fun_prop

theorem conv_gaussian_withDensity (μ : Measure ℝ) [IsFiniteMeasure μ] (o : ℝ) (ho : 0 < o) :
    μ ∗ gaussianReal 0 (NNReal.mk (o ^ 2) (sq_nonneg o))
      = volume.withDensity (fun t => ENNReal.ofReal (∫ z, o⁻¹ * phiStd ((t - z) / o) ∂μ)) := by
  have hv : NNReal.mk (o ^ 2) (sq_nonneg o) ≠ 0 := sq_nnreal_ne_zero ho
  rw [gaussianReal_of_var_ne_zero _ hv, conv_withDensity _ _ (measurable_gaussianPDF 0 _)]
  congr 1
  funext t
  simp only [gaussianPDF, gaussianPDFReal_scale o ho]
  rw [← ofReal_integral_eq_lintegral_ofReal]
  · refine Integrable.of_bound (continuous_noiseDens t o).aestronglyMeasurable (o⁻¹ * (√(2 * π))⁻¹)
      (Filter.Eventually.of_forall fun z => ?_)
    have h0 := phiStd_nonneg ((t - z) / o)
    have hi : 0 < o⁻¹ := inv_pos.mpr ho
    rw [Real.norm_of_nonneg (mul_nonneg hi.le h0)]
    exact mul_le_mul_of_nonneg_left (phiStd_le _) hi.le
  · exact Filter.Eventually.of_forall fun z => mul_nonneg (inv_pos.mpr ho).le (phiStd_nonneg _)

/-- the density of the noise `o·N` at `w t − w u`, in the normalised coordinates of `dens` (`w = b − a`; `φ` is even) -/
theorem noiseDens_eq {w o : ℝ} (hw : 0 < w) (ho : 0 < o) (t u : ℝ) :
    o⁻¹ * phiStd ((w * t - w * u) / o) = dens t (o / w) u / w ∧ o⁻¹ * phiStd ((w * u - w * t) / o) = dens t (o / w) u / w := by
  have e : (w * u - w * t) / o = (u - t) / (o / w) := by rw [← mul_sub, div_div_eq_mul_div, mul_comm]
  refine ⟨?_, ?_⟩
  · rw [← Normal.phiStd_neg, ← neg_div, neg_sub, e, dens]; field_simp
  · rw [e, dens]; field_simp

/-- the right-hand side is the Spec of the C06 density theorems (`pdf_even_model_eq_spec`, `pdf_odd_within_eps_partial`) -/
theorem sumLaw_withDensity (d : Opda.Noisy.Params ℝ) (hab : d.a < d.b) (hc : 1 ≤ d.c) (ho : 0 < d.o) :
    sumLaw d = volume.withDensity (fun y => ENNReal.ofReal
      (mixtureDensity ((d.c : ℝ) / 2) (d.o / (d.b - d.a)) (locOf d y) / (d.b - d.a))) := by
  have hw : 0 < d.b - d.a := sub_pos.mpr hab
  unfold sumLaw
  rw [conv_gaussian_withDensity _ d.o ho]
  congr 1; funext y; congr 1
  rw [integral_quadLaw_weight _ _ _ _ hc _ (continuous_noiseDens y d.o), mixtureDensity,
    ← intervalIntegral.integral_div]
  refine intervalIntegral.integral_congr fun x _ => ?_
  unfold locOf
  cases d.convex
  · simp only [Bool.false_eq_true, if_false]
    rw [mul_div_right_comm, ← (noiseDens_eq hw ho ((d.b - y) / (d.b - d.a)) x).2, mul_div_cancel₀ _ hw.ne']
    congr 4; ring  -- the arguments of `φ`: `y − (b − w x) = w x − (b − y)`
  · simp only [if_true]
    rw [mul_div_right_comm, ← (noiseDens_eq hw ho ((y - d.a) / (d.b - d.a)) x).1, mul_div_cancel₀ _ hw.ne']
    congr 4; ring  -- the arguments of `φ`: `y − (a + w x) = (y − a) − w x`

section model
variable (T : List (ℕ × List (Entry ℝ))) (ninf pinf : ℝ)

theorem spec_is_law_series {d : Opda.Noisy.Params ℝ} (S : Series T ninf pinf d) (hc : 1 ≤ d.c) (y : ℝ) :
    cdfSpec d y = ((sumLaw d) (Iic y)).toReal :=
  spec_is_law d (sub_pos.mp S.w_pos) hc S.o_pos y

theorem cdf_even_eq_law (d : Opda.Noisy.Params ℝ) (k : ℕ) (hk : 1 ≤ k) (hc : d.c = 2 * k) (hab : d.a ≤ d.b)
    (hp : pointMass (realFns T ninf pinf) d = false) (h : regime (realFns T ninf pinf) d = .nothing) (y : ℝ) :
    cdf (realFns T ninf pinf) d y = ((sumLaw d) (Iic y)).toReal := by
  rw [← spec_is_law_series T ninf pinf ⟨hp, h⟩ (by omega) y]
  exact cdf_even_eq_cdfSpec ⟨hp, h⟩ k hk hc y

theorem pdf_even_is_density (d : Opda.Noisy.Params ℝ) (k : ℕ) (hc : d.c = 2 * k + 2) (hab : d.a ≤ d.b)
    (hp : pointMass (realFns T ninf pinf) d = false) (h : regime (realFns T ninf pinf) d = .nothing) :
    sumLaw d = volume.withDensity (fun y => ENNReal.ofReal (pdf (realFns T ninf pinf) d y)) := by
  have S : Series T ninf pinf d := ⟨hp, h⟩
  have hw := S.w_pos
  rw [sumLaw_withDensity d (sub_pos.mp hw) (by omega) S.o_pos]
  congr 1
  funext y
  congr 1
  have e : ((d.c : ℝ)) / 2 = (k : ℝ) + 1 := by rw [hc]; push_cast; ring
  rw [e, ← pdf_even_eq_mixtureDensity S k hc y]
  field_simp

end model

section noiseless
variable (T : List (ℕ × List (Entry ℝ))) (ninf pinf : ℝ)

/-- the quantity `noiseless_bound` compares with — the noise-free law smoothed by `N(0, o²)` — is `P[Z + E ≤ y]` -/
theorem smoothed_noiseless_is_law (d : Opda.Noisy.Params ℝ) (hab : d.a < d.b) (hc : 1 ≤ d.c)
    (hp : pointMass (realFns T ninf pinf) d = false) (h : regime (realFns T ninf pinf) d = .noiseless) (y : ℝ) :
    ∫ e, cdf (realFns T ninf pinf) d (y - e) ∂(gaussianReal 0 ⟨d.o ^ 2, sq_nonneg _⟩)
      = ((sumLaw d) (Iic y)).toReal := by
  have hq : ∀ x, 0 ≤ Opda.Quad.cdf ⟨d.a, d.b, d.c, d.convex⟩ x := fun x =>
    (Opda.Quad.cdf_mem ⟨d.a, d.b, d.c, d.convex⟩ hab hc x).1
  have hmeas : Measurable fun e : ℝ => Opda.Quad.cdf ⟨d.a, d.b, d.c, d.convex⟩ (y - e) :=
    (Opda.Quad.cdf_mono ⟨d.a, d.b, d.c, d.convex⟩ hab hc).measurable.comp (measurable_const.sub measurable_id)
  simp only [cdf_noiseless_eq_quad T ninf pinf d hab hp h]
  unfold sumLaw
  rw [Measure.conv_comm, conv_Iic]  -- conditioning on `E` instead of `Z`
  simp only [quadLaw_Iic ⟨d.a, d.b, d.c, d.convex⟩ hab hc]
  rw [integral_eq_lintegral_of_nonneg_ae (Filter.Eventually.of_forall fun e => hq _) hmeas.aestronglyMeasurable]
  rfl

theorem noiseless_bound_law (d : Opda.Noisy.Params ℝ) (hab : d.a < d.b) (hc : 2 ≤ d.c) (ho : 0 < d.o)
    (hp : pointMass (realFns T ninf pinf) d = false) (h : regime (realFns T ninf pinf) d = .noiseless) (y : ℝ) :
    |cdf (realFns T ninf pinf) d y - ((sumLaw d) (Iic y)).toReal| ≤ 0.4 * d.c * d.o / (d.b - d.a) := by
  rw [← smoothed_noiseless_is_law T ninf pinf d hab (by omega) hp h y]
  exact noiseless_bound T ninf pinf d hab hc ho hp h y

theorem noiseless_bound_c1_law (d : Opda.Noisy.Params ℝ) (hab : d.a < d.b) (hc : d.c = 1) (ho : 0 < d.o)
    (hp : pointMass (realFns T ninf pinf) d = false) (h : regime (realFns T ninf pinf) d = .noiseless) (y : ℝ) :
    |cdf (realFns T ninf pinf) d y - ((sumLaw d) (Iic y)).toReal| ≤ 0.83 * Real.sqrt (d.o / (d.b - d.a)) := by
  rw [← smoothed_noiseless_is_law T ninf pinf d hab (by omega) hp h y]
  exact noiseless_bound_c1 T ninf pinf d hab hc ho hp h y

end noiseless

section shipped
open Opda.Gen Opda.Table
variable (ninf pinf : ℝ)

theorem cdf_odd_shipped_uniform_law (d : Opda.Noisy.Params ℝ) (k : ℕ) (hc : d.c = 2 * k + 1) (hab : d.a ≤ d.b)
    (hp : pointMass (realFns tableR ninf pinf) d = false) (h : regime (realFns tableR ninf pinf) d = .nothing)
    (row : ℕ × List EntryQ) (hrow : rowOf tableQ d.c = some row) (y : ℝ) :
    |cdf (realFns tableR ninf pinf) d y - ((sumLaw d) (Iic y)).toReal| ≤ 1.02 * (rowMaxError row : ℝ) := by
  rw [← spec_is_law_series tableR ninf pinf ⟨hp, h⟩ (by omega) y]
  exact cdf_odd_castTable_uniform tableQ Cert.struct_ok Cert.table_bound ⟨hp, h⟩ k hc row hrow y

theorem cdf_c7_c9_shipped_law (d : Opda.Noisy.Params ℝ) (hc : d.c = 7 ∨ d.c = 9) (hab : d.a ≤ d.b)
    (hp : pointMass (realFns tableR ninf pinf) d = false) (h : regime (realFns tableR ninf pinf) d = .nothing)
    (y : ℝ) :
    |cdf (realFns tableR ninf pinf) d y - ((sumLaw d) (Iic y)).toReal| ≤ 2.5e-5 := by
  rw [← spec_is_law_series tableR ninf pinf ⟨hp, h⟩ (by omega) y]
  exact cdf_c7_c9_shipped ⟨hp, h⟩ hc y

end shipped

end Opda.NoisyLaw

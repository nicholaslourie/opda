import OpdaProofs.TableMoments
import OpdaProofs.NoisyConv
import OpdaGen.CertAll
/-!
C06 ∘ C19: the end-to-end accuracy of the model's cdf / pdf over `ℝ` **with the shipped table**.  `NoisyConv.lean` proves,
for an arbitrary table, that the odd-`c` cdf is within `ε` of the Spec whenever the selected pieces tile `[0,1]` and are
`ε`-accurate; `Props/C19.lean` proves that every piece of every entry of the table regenerated from
`_approximations.json` (`Opda.Gen.tableQ`) is `1.02·max_error`-accurate on its knot interval.  This file joins them: on
the cast of a rational table the code's selection rule returns the cast of the entry chosen by `selectR`, the pieces the
recursion walks through are C19's `piecesOf`, and the hypothesis `PiecesAccurate` of the conditional theorems follows from
`structOK` / `PieceBound` (`selected_accurate`).  Everything up to the last section is stated for an arbitrary rational
table with those two certificates; the last section instantiates it with `Opda.Gen.tableQ`, `Opda.Gen.Cert.struct_ok`,
`Opda.Gen.Cert.table_bound`; there `tolOK c σmax bound` is the kernel-checkable form of "every entry of the row of `c` that a
scale `< σmax` can select records `1.02·max_error ≤ bound`", behind the property's own figures (`cdf_c7_c9_shipped`,
`pdf_c9_shipped`, and `cdf_ppf_odd_tolerance` in `NoisyAccuracy.lean`).
-/
namespace Opda.Noisy
open Opda.Table Opda.Gen Opda.PolyCheck
open MeasureTheory intervalIntegral Real Set

/-- `max_error` is dropped: the algorithm never reads it -/
noncomputable def castEntry (e : EntryQ) : Noisy.Entry ℝ :=
  { minScale := (e.minScale : ℝ)
    knots := e.knots.map (fun q : ℚ => (q : ℝ))
    coeffs := e.coeffs.map (fun cs => cs.map (fun q : ℚ => (q : ℝ))) }

noncomputable def castTable (T : List (ℕ × List EntryQ)) : List (ℕ × List (Noisy.Entry ℝ)) :=
  T.map fun p => (p.1, p.2.map castEntry)

/-- the code's selection rule at a **real** scale -/
noncomputable def selectR (es : List EntryQ) (σ : ℝ) : Option EntryQ :=
  es.find? fun e => decide ((e.minScale : ℝ) ≤ σ)

theorem selectR_cast (es : List EntryQ) (q : ℚ) : selectR es (q : ℝ) = select es q := by
  unfold selectR select
  congr 1
  funext e
  simp only [Rat.cast_le]

/-- the code's dictionary lookup of the exponent `m/2` -/
def rowOf (T : List (ℕ × List EntryQ)) (m : ℕ) : Option (ℕ × List EntryQ) := T.find? fun p => p.1 == m

theorem rowOf_mem {T : List (ℕ × List EntryQ)} {m : ℕ} {row : ℕ × List EntryQ} (h : rowOf T m = some row) :
    row ∈ T ∧ row.1 = m := by
  unfold rowOf at h
  exact ⟨List.mem_of_find?_eq_some h, by simpa using List.find?_some h⟩

theorem tableLookup_castTable (T : List (ℕ × List EntryQ)) (ninf pinf σ : ℝ) (m : ℕ) :
    tableLookup (realFns (castTable T) ninf pinf) σ (m : ℤ)
      = ((rowOf T m).bind fun row => selectR row.2 σ).map castEntry := by
  -- the cast keeps the keys, and `¬ σ < min_scale` over `ℝ` is `min_scale ≤ σ`
  have hkey : ((fun p : ℕ × List (Noisy.Entry ℝ) => p.1 == m) ∘ fun p : ℕ × List EntryQ => (p.1, p.2.map castEntry))
      = fun p => p.1 == m := rfl
  have hsel : ((fun e : Noisy.Entry ℝ => decide ¬ (σ < e.minScale)) ∘ castEntry)
      = fun e : EntryQ => decide ((e.minScale : ℝ) ≤ σ) := funext fun e => decide_eq_decide.mpr not_lt
  unfold tableLookup rowOf
  rw [if_neg (by omega), Int.toNat_natCast, show (realFns (castTable T) ninf pinf).table = castTable T from rfl, castTable,
    List.find?_map, hkey]
  cases T.find? (fun p => p.1 == m) with
  | none => rfl
  | some row =>
    calc (row.2.map castEntry).find? (fun e => decide ¬ (σ < e.minScale))
        = (row.2.find? ((fun e : Noisy.Entry ℝ => decide ¬ (σ < e.minScale)) ∘ castEntry)).map castEntry :=
          List.find?_map ..
      _ = (selectR row.2 σ).map castEntry := by rw [hsel]; rfl

/-- the last `min_scale` of a well-formed row is `0` -/
theorem selectR_isSome (row : ℕ × List EntryQ) (h : rowOK row = true) (σ : ℝ) (hσ : 0 ≤ σ) :
    ∃ e, selectR row.2 σ = some e := by
  unfold rowOK at h
  simp only [Bool.and_eq_true, decide_eq_true_eq] at h
  obtain ⟨e0, he0, hz⟩ := List.mem_map.mp (List.mem_of_getLast? h.2)
  refine Option.isSome_iff_exists.mp (List.find?_isSome.mpr ⟨e0, he0, ?_⟩)
  simp only [hz]; simpa using hσ

theorem zip_eq_piecesOf : ∀ (knots : List ℚ) (coeffs : List (List ℚ)),
    (((knots.map (fun q : ℚ => (q : ℝ))).zip (knots.map (fun q : ℚ => (q : ℝ))).tail).zip
        (coeffs.map (fun cs => cs.map (fun q : ℚ => (q : ℝ))))) = piecesOf knots coeffs
  | [], _ => by simp [piecesOf]
  | [_], _ => by simp [piecesOf]
  | _ :: _ :: _, [] => by simp [piecesOf]
  | lo :: hi :: ks, cs :: css => by
    have ih := zip_eq_piecesOf (hi :: ks) css
    simp only [List.map_cons, List.tail_cons, List.zip_cons_cons, piecesOf] at ih ⊢
    rw [ih]

theorem lookup_exists (T : List (ℕ × List EntryQ)) (hs : structOK T = true) (m : ℕ) (hm : ∃ row ∈ T, row.1 = m)
    (σ : ℝ) (hσ : 0 ≤ σ) :
    ∃ row e, rowOf T m = some row ∧ selectR row.2 σ = some e ∧ row ∈ T ∧ e ∈ row.2 := by
  obtain ⟨row0, hrow0, hm0⟩ := hm
  obtain ⟨row, hrow⟩ := Option.isSome_iff_exists.mp
    (List.find?_isSome.mpr ⟨row0, hrow0, by simpa using hm0⟩ : (rowOf T m).isSome = true)
  obtain ⟨e, he⟩ := selectR_isSome row (List.all_eq_true.mp hs row (rowOf_mem hrow).1) σ hσ
  exact ⟨row, e, hrow, he, (rowOf_mem hrow).1, List.mem_of_find?_eq_some he⟩

theorem selectedPieces_castTable (T : List (ℕ × List EntryQ)) (ninf pinf μ σ : ℝ) (m : ℕ) (row : ℕ × List EntryQ)
    (e : EntryQ) (hrow : rowOf T m = some row) (he : selectR row.2 σ = some e) :
    selectedPieces (realFns (castTable T) ninf pinf) μ σ (m : ℤ) = piecesOf e.knots e.coeffs := by
  have hl : tableLookup (realFns (castTable T) ninf pinf) σ (m : ℤ) = some (castEntry e) := by
    rw [tableLookup_castTable, hrow]; simp [he]
  have ha : approxCoeffs (realFns (castTable T) ninf pinf) μ σ (m : ℤ)
      = ((castEntry e).knots, (castEntry e).coeffs) := by
    unfold approxCoeffs; rw [hl]
  unfold selectedPieces
  rw [ha]
  exact zip_eq_piecesOf e.knots e.coeffs

def rowMaxError (row : ℕ × List EntryQ) : ℚ := row.2.foldr (fun e m => max e.maxError m) 0

theorem le_rowMaxError (row : ℕ × List EntryQ) (e : EntryQ) (he : e ∈ row.2) : e.maxError ≤ rowMaxError row := by
  obtain ⟨m, l⟩ := row
  unfold rowMaxError
  induction l with
  | nil => exact absurd he List.not_mem_nil
  | cons a t ih =>
    rcases List.mem_cons.mp he with rfl | h
    · exact le_max_left _ _
    · exact (ih h).trans (le_max_right _ _)

theorem selected_le_rowMaxError {row : ℕ × List EntryQ} {σ : ℝ} {e : EntryQ} (he : selectR row.2 σ = some e) :
    (e.maxError : ℝ) ≤ (rowMaxError row : ℝ) := by
  exact_mod_cast le_rowMaxError row e (List.mem_of_find?_eq_some he)

theorem slack_cast (q : ℚ) : ((slack * q : ℚ) : ℝ) = 1.02 * (q : ℝ) := by
  unfold slack; push_cast; norm_num

section endToEnd
variable (T : List (ℕ × List EntryQ)) (hs : structOK T = true)
  (hb : ∀ t ∈ allPieces T, PieceBound T t.1 t.2.1 t.2.2) {ninf pinf : ℝ} {d : Params ℝ}
  (S : Series (castTable T) ninf pinf d)
include hs hb

omit d in
theorem selected_accurate (ninf pinf : ℝ) (m : ℕ) (row : ℕ × List EntryQ) (e : EntryQ) (μ σ : ℝ)
    (hrow : rowOf T m = some row) (he : selectR row.2 σ = some e) :
    PiecesAccurate (selectedPieces (realFns (castTable T) ninf pinf) μ σ (m : ℤ)) ((m : ℝ) / 2)
      ((slack * e.maxError : ℚ) : ℝ) := by
  obtain ⟨hmem, hkey⟩ := rowOf_mem hrow
  rw [selectedPieces_castTable T ninf pinf μ σ m row e hrow he, ← hkey]
  exact entry_accurate hs row hmem e (List.mem_of_find?_eq_some he) hb

include S

/-- **cdf, odd `c` present in the table, both shapes, series regime, no hypothesis on the pieces**; `e` is the entry the
scale `o/(b−a)` selects in the row of key `c`. -/
theorem cdf_odd_castTable (k : ℕ) (hc : d.c = 2 * k + 1) (hkey : ∃ row ∈ T, row.1 = d.c) :
    ∃ row e, rowOf T d.c = some row ∧ selectR row.2 (d.o / (d.b - d.a)) = some e ∧
      ∀ y : ℝ, |cdf (realFns (castTable T) ninf pinf) d y - cdfSpec d y| ≤ 1.02 * (e.maxError : ℝ) := by
  obtain ⟨row, e, hrow, he, hmem, hemem⟩ := lookup_exists T hs d.c hkey _ S.s_pos.le
  refine ⟨row, e, hrow, he, fun y => ?_⟩
  rw [← slack_cast]
  rw [hc] at hrow
  exact cdf_odd_error S k hc y _ (slack_maxError_nonneg hs row hmem e hemem)
    (selected_accurate T hs hb ninf pinf (2 * k + 1) row e (locOf d y) _ hrow he)

theorem cdf_odd_castTable_uniform (k : ℕ) (hc : d.c = 2 * k + 1)
    (row : ℕ × List EntryQ) (hrow : rowOf T d.c = some row) (y : ℝ) :
    |cdf (realFns (castTable T) ninf pinf) d y - cdfSpec d y| ≤ 1.02 * (rowMaxError row : ℝ) := by
  obtain ⟨row', e, hrow', he, hy⟩ := cdf_odd_castTable T hs hb S k hc ⟨row, rowOf_mem hrow⟩
  obtain rfl := Option.some.inj (hrow.symm.trans hrow')
  exact (hy y).trans (mul_le_mul_of_nonneg_left (selected_le_rowMaxError he) (by norm_num))

/-- **density, odd `c ≥ 3`, both shapes, series regime**: the row is that of key `c − 2`, the order of the moment the
density needs. -/
theorem pdf_odd_castTable (k : ℕ) (hc : d.c = 2 * k + 3) (hkey : ∃ row ∈ T, row.1 = d.c - 2) :
    ∃ row e, rowOf T (d.c - 2) = some row ∧ selectR row.2 (d.o / (d.b - d.a)) = some e ∧
      ∀ y : ℝ, |(d.b - d.a) * pdf (realFns (castTable T) ninf pinf) d y
            - mixtureDensity ((d.c : ℝ) / 2) (d.o / (d.b - d.a)) (locOf d y)|
          ≤ (d.c : ℝ) / 2 * (1.02 * (e.maxError : ℝ)) := by
  obtain ⟨row, e, hrow, he, hmem, hemem⟩ := lookup_exists T hs (d.c - 2) hkey _ S.s_pos.le
  refine ⟨row, e, hrow, he, fun y => ?_⟩
  rw [← slack_cast]
  rw [show d.c - 2 = 2 * k + 1 by omega] at hrow
  rw [show ((d.c : ℕ) : ℝ) = ((2 * k + 3 : ℕ) : ℝ) by rw [hc]]
  exact pdf_odd_error S k hc y _ (slack_maxError_nonneg hs row hmem e hemem)
    (selected_accurate T hs hb ninf pinf (2 * k + 1) row e (locOf d y) _ hrow he)

theorem pdf_odd_castTable_uniform (k : ℕ) (hc : d.c = 2 * k + 3)
    (row : ℕ × List EntryQ) (hrow : rowOf T (d.c - 2) = some row) (y : ℝ) :
    |(d.b - d.a) * pdf (realFns (castTable T) ninf pinf) d y
        - mixtureDensity ((d.c : ℝ) / 2) (d.o / (d.b - d.a)) (locOf d y)|
      ≤ (d.c : ℝ) / 2 * (1.02 * (rowMaxError row : ℝ)) := by
  obtain ⟨row', e, hrow', he, hy⟩ := pdf_odd_castTable T hs hb S k hc ⟨row, rowOf_mem hrow⟩
  obtain rfl := Option.some.inj (hrow.symm.trans hrow')
  exact (hy y).trans (mul_le_mul_of_nonneg_left
    (mul_le_mul_of_nonneg_left (selected_le_rowMaxError he) (by norm_num)) (div_nonneg (Nat.cast_nonneg _) zero_le_two))

end endToEnd

/-- **the shipped table as the real instance reads it**: `Opda.Gen.tableQ` (regenerated from `_approximations.json`
on every run, every double as the exact rational it denotes), cast to `ℝ` -/
noncomputable def tableR : List (ℕ × List (Noisy.Entry ℝ)) := castTable Opda.Gen.tableQ

/-- the shipped table has a row for every odd `c ≤ 9` (keys are `2·exponent`): these are the `c` (cdf) and `c − 2`
(pdf) the end-to-end theorems cover.  (Stated as an implication so that it survives additional rows.) -/
theorem shipped_key_present (m : ℕ) (hm : m ∈ [1, 3, 5, 7, 9]) : ∃ row ∈ tableQ, row.1 = m := by
  obtain ⟨row, hrow⟩ := Option.isSome_iff_exists.mp (List.all_eq_true.mp
    (show ([1, 3, 5, 7, 9].all fun m => (rowOf tableQ m).isSome) = true by decide +kernel) m hm)
  exact ⟨row, rowOf_mem hrow⟩

/-- the entries of the row of key `c` that a scale `< σmax` can select all record `1.02·max_error ≤ bound` -/
def tolOK (c : ℕ) (σmax bound : ℚ) : Bool :=
  match rowOf tableQ c with
  | some row => row.2.all fun e => decide (σmax ≤ e.minScale) || decide (slack * e.maxError ≤ bound)
  | none => false

/-- kernel check on the regenerated table: `c = 9` at every scale `< 10` (the whole series regime), `c = 5` at scales
`< 1/5`, `c = 3` at scales `< 1/50` select entries with `1.02·max_error ≤ 4.67e-6`, `4.02e-6`, `2.5e-7`.
Each bound is taken just above the errors those entries record and small enough that
`2·bound + (c/2)·121/2^30 + 2e-8 ≤ 1e-5` (`cdf_ppf_odd_tolerance`; for `c = 9`: `9.87e-6`). -/
theorem shipped_tolerance_check :
    (tolOK 9 10 (467 / 100000000) && tolOK 5 (1 / 5) (402 / 100000000) && tolOK 3 (1 / 50) (25 / 100000000)) = true := by
  decide +kernel

theorem selected_le_of_tolOK (c : ℕ) (σmax bound : ℚ) (hchk : tolOK c σmax bound = true) (row : ℕ × List EntryQ)
    (hrow : rowOf tableQ c = some row) (σ : ℝ) (hσ : σ < (σmax : ℝ)) (e : EntryQ) (he : selectR row.2 σ = some e) :
    1.02 * (e.maxError : ℝ) ≤ (bound : ℝ) := by
  unfold tolOK at hchk
  rw [hrow] at hchk
  have hsel : (e.minScale : ℝ) ≤ σ := by simpa using List.find?_some he
  have h1 := List.all_eq_true.mp hchk e (List.mem_of_find?_eq_some he)
  rw [Bool.or_eq_true, decide_eq_true_eq, decide_eq_true_eq] at h1
  rcases h1 with h1 | h1
  · exfalso
    have : (σmax : ℝ) ≤ (e.minScale : ℝ) := by exact_mod_cast h1
    exact absurd (this.trans hsel) (not_le.mpr hσ)
  · rw [← slack_cast]; exact_mod_cast h1

/-- from `tolOK`: the row exists -/
theorem row_of_tolOK {c : ℕ} {σmax bound : ℚ} (hchk : tolOK c σmax bound = true) : ∃ row ∈ tableQ, row.1 = c := by
  unfold tolOK at hchk
  cases hrow : rowOf tableQ c with
  | none => rw [hrow] at hchk; exact absurd hchk Bool.false_ne_true
  | some row => exact ⟨row, rowOf_mem hrow⟩

/-- the row of key 7 of the regenerated table records `1.02·max_error ≤ 1e-4/(9/2)` in every entry a scale `< 10` can
select (`≤ 2.5e-5` a fortiori; the row of key 9 is covered by `shipped_tolerance_check`) -/
theorem shipped_row7_check : tolOK 7 10 (1 / 45000) = true := by decide +kernel

section shipped
variable {ninf pinf : ℝ} {d : Params ℝ} (S : Series tableR ninf pinf d)
include S

/-- odd `c` whose row passes `tolOK c 10 B` (every scale of the series regime): the cdf is within `B` of the Spec -/
theorem cdf_odd_of_tolOK (k : ℕ) (hc : d.c = 2 * k + 1) (B : ℚ) (hchk : tolOK d.c 10 B = true) (y : ℝ) :
    |cdf (realFns tableR ninf pinf) d y - cdfSpec d y| ≤ (B : ℝ) := by
  obtain ⟨row, e, hrow, he, hy⟩ := cdf_odd_castTable tableQ Cert.struct_ok Cert.table_bound S k hc (row_of_tolOK hchk)
  exact (hy y).trans (selected_le_of_tolOK d.c 10 B hchk row hrow _ (by push_cast; exact S.s_lt) e he)

/-- likewise the density, with the row of key `c − 2` -/
theorem pdf_odd_of_tolOK (k : ℕ) (hc : d.c = 2 * k + 3) (B : ℚ) (hchk : tolOK (d.c - 2) 10 B = true) (y : ℝ) :
    |(d.b - d.a) * pdf (realFns tableR ninf pinf) d y
        - mixtureDensity ((d.c : ℝ) / 2) (d.o / (d.b - d.a)) (locOf d y)| ≤ (d.c : ℝ) / 2 * (B : ℝ) := by
  obtain ⟨row, e, hrow, he, hy⟩ := pdf_odd_castTable tableQ Cert.struct_ok Cert.table_bound S k hc (row_of_tolOK hchk)
  exact (hy y).trans (mul_le_mul_of_nonneg_left
    (selected_le_of_tolOK _ 10 B hchk row hrow _ (by push_cast; exact S.s_lt) e he) (div_nonneg (Nat.cast_nonneg _) zero_le_two))

/-- **`c ∈ {7, 9}`: the property's own 2.5e-5**, in exact real arithmetic, at every `y`, for both shapes and every scale
of the series regime. -/
theorem cdf_c7_c9_shipped (hc : d.c = 7 ∨ d.c = 9) (y : ℝ) :
    |cdf (realFns tableR ninf pinf) d y - cdfSpec d y| ≤ 2.5e-5 := by
  have h9 := (Bool.and_eq_true_iff.mp (Bool.and_eq_true_iff.mp shipped_tolerance_check).1).1
  rcases hc with hc | hc
  · refine (cdf_odd_of_tolOK S 3 hc _ (hc ▸ shipped_row7_check) y).trans ?_
    push_cast; norm_num
  · refine (cdf_odd_of_tolOK S 4 hc _ (hc ▸ h9) y).trans ?_
    push_cast; norm_num

/-- **`c = 9`: the property's own 1e-4 for the density** (the property asks `1e-4·max(1, v)`, `v` the true density), in
exact real arithmetic: the row of key `c − 2 = 7` records `(9/2)·1.02·max_error ≤ 1e-4`. -/
theorem pdf_c9_shipped (hc : d.c = 9) (y : ℝ) :
    |(d.b - d.a) * pdf (realFns tableR ninf pinf) d y
        - mixtureDensity ((d.c : ℝ) / 2) (d.o / (d.b - d.a)) (locOf d y)| ≤ 1e-4 := by
  refine (pdf_odd_of_tolOK S 3 (by omega) _
    (by rw [show d.c - 2 = 7 by omega]; exact shipped_row7_check) y).trans ?_
  rw [hc]; push_cast; norm_num

end shipped

end Opda.Noisy

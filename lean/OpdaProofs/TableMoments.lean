import OpdaProofs.TableSpec
import OpdaProofs.NoisyReal
/-!
C19, last clause, in exact arithmetic and for **every** location and scale: the partial normal moment computed from an
entry's pieces, `Σ_pieces ∫ p_i dN(μ, σ²)`, is within `1.02 · max_error` of the true partial moment `∫₀¹ x^k dN(μ, σ²)`.
Combines the kernel-checked uniform bound of every piece (`PieceBound`) with the integral estimate `chain_error_le`
(`OpdaProofs/NoisyReal.lean`); that the code's piecewise recursion returns exactly `Σ_pieces ∫ p_i dN` is
`Opda.Props.C06.frac_moment_model`.
-/
namespace Opda.Table
open Opda.Gen Opda.PolyCheck Opda.Noisy

noncomputable def piecesOf : List ℚ → List (List ℚ) → List ((ℝ × ℝ) × List ℝ)
  | lo :: hi :: ks, cs :: css => (((lo : ℝ), (hi : ℝ)), cs.map (fun q : ℚ => (q : ℝ))) :: piecesOf (hi :: ks) css
  | _, _ => []

theorem polyEval_map_cast (cs : List ℚ) (i : ℕ) (x : ℝ) :
    polyEval (cs.map (fun q : ℚ => (q : ℝ))) i x = x ^ i * evalQ cs x := by
  induction cs generalizing i with
  | nil => simp [polyEval, evalQ]
  | cons c rest ih =>
    simp only [List.map_cons, polyEval, evalQ, ih (i + 1)]
    ring

theorem polyEval_eq_evalQ (cs : List ℚ) (x : ℝ) :
    polyEval (cs.map (fun q : ℚ => (q : ℝ))) 0 x = evalQ cs x := by
  rw [polyEval_map_cast]; simp

theorem mem_piecesOf : ∀ (knots : List ℚ) (coeffs : List (List ℚ)) (pc : (ℝ × ℝ) × List ℝ),
    pc ∈ piecesOf knots coeffs →
      ∃ (i : ℕ) (lo hi : ℚ) (cs : List ℚ), knots[i]? = some lo ∧ knots[i + 1]? = some hi ∧ coeffs[i]? = some cs ∧
        pc = (((lo : ℝ), (hi : ℝ)), cs.map (fun q : ℚ => (q : ℝ)))
  | [], _, pc, h => by simp [piecesOf] at h
  | [_], _, pc, h => by simp [piecesOf] at h
  | _ :: _ :: _, [], pc, h => by simp [piecesOf] at h
  | lo :: hi :: ks, cs :: css, pc, h => by
    simp only [piecesOf, List.mem_cons] at h
    rcases h with rfl | h
    · exact ⟨0, lo, hi, cs, rfl, rfl, rfl, rfl⟩
    · obtain ⟨i, lo', hi', cs', h1, h2, h3, h4⟩ := mem_piecesOf (hi :: ks) css pc h
      exact ⟨i + 1, lo', hi', cs', h1, h2, h3, h4⟩

theorem chain_piecesOf : ∀ (knots : List ℚ) (coeffs : List (List ℚ)) (x0 x1 : ℚ),
    strictlyIncreasing knots = true → knots.head? = some x0 → knots.getLast? = some x1 →
    coeffs.length + 1 = knots.length → ChainFrom (x0 : ℝ) (piecesOf knots coeffs) (x1 : ℝ)
  | [], _, _, _, _, h, _, _ => by simp at h
  | [u], coeffs, x0, x1, _, h0, h1, hl => by
    simp only [List.head?_cons, Option.some.injEq] at h0
    simp only [List.getLast?_singleton, Option.some.injEq] at h1
    subst h0; subst h1
    have : coeffs = [] := by cases coeffs with
      | nil => rfl
      | cons c cs => simp at hl
    subst this
    simpa [piecesOf] using ChainFrom.nil (u : ℝ)
  | u :: v :: ks, [], _, _, _, _, _, hl => by simp at hl
  | u :: v :: ks, cs :: css, x0, x1, hs, h0, h1, hl => by
    simp only [List.head?_cons, Option.some.injEq] at h0
    subst h0
    simp only [strictlyIncreasing, Bool.and_eq_true, decide_eq_true_eq] at hs
    have h1' : (v :: ks).getLast? = some x1 := by rw [List.getLast?_cons_cons] at h1; exact h1
    have hl' : css.length + 1 = (v :: ks).length := by simpa using hl
    have := chain_piecesOf (v :: ks) css v x1 hs.2 rfl h1' hl'
    simp only [piecesOf]
    exact ChainFrom.cons (u : ℝ) (v : ℝ) (x1 : ℝ) _ _ (by exact_mod_cast hs.1.le) this

section certified
variable {T : List (ℕ × List EntryQ)}

variable (hs : structOK T = true) (row : ℕ × List EntryQ) (hrow : row ∈ T) (e : EntryQ) (he : e ∈ row.2)
include hs hrow he

/-- what the two certificates say of one entry: its pieces tile `[0, 1]` (`structOK`) and are `1.02·max_error`-accurate for
`x^(key/2)` (`PieceBound`) -/
theorem entry_accurate (hb : ∀ t ∈ allPieces T, PieceBound T t.1 t.2.1 t.2.2) :
    PiecesAccurate (piecesOf e.knots e.coeffs) ((row.1 : ℝ) / 2) ((slack * e.maxError : ℚ) : ℝ) := by
  obtain ⟨-, hinc, hhead, hlast, hlen, -⟩ := entry_spec hs hrow he
  refine ⟨by simpa using chain_piecesOf e.knots e.coeffs 0 1 hinc hhead hlast hlen, fun pc hpc x hx => ?_⟩
  obtain ⟨ri, hri⟩ := List.getElem?_of_mem hrow
  obtain ⟨ei, hei⟩ := List.getElem?_of_mem he
  obtain ⟨pi, lo, hi, cs, hlo, hhi, hcs, rfl⟩ := mem_piecesOf e.knots e.coeffs pc hpc
  rw [polyEval_eq_evalQ, abs_sub_comm]
  exact bound_of_certs hb hri hei hcs hlo hhi x hx.1 hx.2

theorem slack_maxError_nonneg : (0:ℝ) ≤ ((slack * e.maxError : ℚ) : ℝ) := by
  have : (0:ℚ) ≤ slack * e.maxError :=
    mul_nonneg (by unfold slack; norm_num) (entry_spec hs hrow he).2.2.2.2.2.le
  exact_mod_cast this

end certified

/-- **C19, partial moments.**  For a structurally well-formed table all of whose pieces carry the uniform bound:
for every row (exponent `m2/2`), every entry, **every location `μ` and every scale `σ > 0`**, the piecewise moment of the
entry is within `1.02 · max_error` of `∫₀¹ x^(m2/2) dN(μ, σ²)`. -/
theorem moments_of_certs (T : List (Nat × List EntryQ)) (hs : structOK T = true)
    (hb : ∀ t ∈ allPieces T, PieceBound T t.1 t.2.1 t.2.2)
    (row : Nat × List EntryQ) (hrow : row ∈ T) (e : EntryQ) (he : e ∈ row.2) (μ σ : ℝ) (hσ : 0 < σ) :
    |(∫ x in (0:ℝ)..1, x ^ ((row.1 : ℝ) / 2) * dens μ σ x) - piecesSum μ σ (piecesOf e.knots e.coeffs)|
      ≤ ((slack * e.maxError : ℚ) : ℝ) :=
  chain_error_le μ σ _ hσ (slack_maxError_nonneg hs row hrow e he) _
    (Real.continuous_rpow_const (by positivity)) 0 1 _ (entry_accurate hs row hrow e he hb).chain (entry_accurate hs row hrow e he hb).eps

end Opda.Table

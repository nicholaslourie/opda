import OpdaModel.FitPlan
import OpdaProofs.Fit
import OpdaProofs.FitPlan
import Mathlib.Tactic

/-!
C10-T6 (best-of-`convex`), C11-T6 (exception table), C11-T5 (feasibility of the box of the noiseless
class) and C11-T1/T2 (everything handed to the optimiser depends on the sample only through
`(n, n_lower, n_upper, multiset of observed values)`).
-/
namespace Opda.Fit

section best
variable {β γ : Type} [LinearOrder β]

/-- the strict-`<` fold from any start `(b0, r0)`: either nothing beat `b0`, or the result is the *first*
run with the least `fun` (C10-T6 is the case `(inf, none)`) -/
theorem bestOf_fold (runs : List (β × γ)) (b0 : β) (r0 : Option γ) (res : β × Option γ)
    (hres : runs.foldl (fun acc r => if r.1 < acc.1 then (r.1, some r.2) else acc) (b0, r0) = res) :
    (res = (b0, r0) ∧ ∀ r ∈ runs, ¬ r.1 < b0) ∨
    (∃ pre g post, runs = pre ++ (res.1, g) :: post ∧ res.2 = some g ∧ res.1 < b0 ∧
      (∀ r ∈ pre, res.1 < r.1) ∧ (∀ r ∈ post, res.1 ≤ r.1)) := by
  induction runs generalizing b0 r0 with
  | nil => exact .inl ⟨hres.symm, fun _ h => nomatch h⟩
  | cons r rs ih =>
    simp only [List.foldl_cons] at hres
    by_cases h : r.1 < b0
    · simp only [h, if_true] at hres
      rcases ih r.1 (some r.2) hres with ⟨he, hall⟩ | ⟨pre, g, post, hruns, hg, hlt, hpre, hpost⟩
      · subst he
        exact .inr ⟨[], r.2, rs, rfl, rfl, h, (fun _ h => nomatch h), fun x hx => not_lt.mp (hall x hx)⟩
      · exact .inr ⟨r :: pre, g, post, by rw [hruns]; rfl, hg, hlt.trans h,
          List.forall_mem_cons.mpr ⟨hlt, hpre⟩, hpost⟩
    · simp only [h, if_false] at hres
      rcases ih b0 r0 hres with ⟨he, hall⟩ | ⟨pre, g, post, hruns, hg, hlt, hpre, hpost⟩
      · exact .inl ⟨he, List.forall_mem_cons.mpr ⟨h, hall⟩⟩
      · exact .inr ⟨r :: pre, g, post, by rw [hruns]; rfl, hg, hlt,
          List.forall_mem_cons.mpr ⟨hlt.trans_le (not_lt.mp h), hpre⟩, hpost⟩

end best

section exc
variable {α β : Type} [LinearOrder α]

/-- Every exception this stage can raise lies in `P`.  The rules below follow the code's first-failure
chains `if c₁ then raise x₁ elif c₂ then raise x₂ … else rest` link by link. -/
def Raises (P : Exc → Prop) (o : Option Exc) : Prop := ∀ e, o = some e → P e
def RaisesE (P : Exc → Prop) (r : Except Exc β) : Prop := ∀ e, r = .error e → P e

section rules
variable {P : Exc → Prop} {c : Prop} [Decidable c]

theorem Raises.none : Raises P none := fun _ h => nomatch h
theorem Raises.some {x : Exc} (hx : P x) : Raises P (some x) := fun _ h => Option.some.inj h ▸ hx
theorem Raises.ite {t r : Option Exc} (ht : Raises P t) (hr : Raises P r) : Raises P (if c then t else r) := by
  split_ifs <;> assumption
theorem RaisesE.ok {b : β} : RaisesE P (.ok b) := fun _ h => nomatch h
theorem RaisesE.error {x : Exc} (hx : P x) : RaisesE (β := β) P (.error x) := fun _ h => Except.error.inj h ▸ hx
theorem RaisesE.ite {t r : Except Exc β} (ht : RaisesE P t) (hr : RaisesE P r) :
    RaisesE P (if c then t else r) := by
  split_ifs <;> assumption

end rules

/-- the exceptions of argument validation -/
def VT (e : Exc) : Prop := e = .valueError ∨ e = .typeError
theorem VT.value : Raises VT (some .valueError) := .some (.inl rfl)
theorem VT.type : Raises VT (some .typeError) := .some (.inr rfl)

theorem checkNum_raises (zero one ten : α) (isInt : α → Bool) (key : Key) (d : NumDesc α) :
    Raises VT (checkNum zero one ten isInt key d) := by
  rcases d with _ | _ | (_ | v) | ⟨_ | lo, _ | hi⟩
  · exact VT.type
  · exact VT.type
  · exact VT.value
  · exact .ite (.ite VT.value (.ite VT.value .none)) (.ite (.ite VT.value .none) .none)
  · exact VT.value
  · exact VT.value
  · exact VT.value
  · exact .ite VT.value (.ite (.ite VT.value (.ite VT.value .none)) (.ite (.ite VT.value .none) .none))

theorem checkItem_raises (zero one ten : α) (isInt : α → Bool) (cls : Cls) (it : ConsItem α) :
    Raises VT (checkItem zero one ten isInt cls it) := by
  cases it with
  | other => exact VT.value
  | convex cd => exact .ite VT.type (.ite VT.value (.ite VT.type (.ite VT.value .none)))
  | num key nd => exact .ite VT.value (checkNum_raises zero one ten isInt key nd)

theorem checkCons_raises (zero one ten : α) (isInt : α → Bool) (cls : Cls) (items : List (ConsItem α)) :
    Raises VT (checkCons zero one ten isInt cls items) := by
  induction items with
  | nil => exact .none
  | cons it rest ih =>
    have := checkItem_raises zero one ten isInt cls it
    unfold checkCons
    cases hit : checkItem zero one ten isInt cls it with
    | none => exact ih
    | some e' => exact fun e h => this e (hit ▸ h)

theorem validate_raises (zero one ten : α) (isInt : α → Bool) (cls : Cls) (ys : YsDesc) (lim : LimDesc)
    (items : List (ConsItem α)) : Raises VT (validate zero one ten isInt cls ys lim items) :=
  .ite VT.value <| .ite VT.value <| .ite VT.value <| .ite VT.value <| .ite VT.value <| .ite VT.type <|
    .ite VT.value <| .ite VT.value <| checkCons_raises zero one ten isInt cls items

theorem precheck_raises (zero : α) (cls : Cls) (c : Censored α) (lo hi : α) (cA cB cO : Cons α) (cFloatPair : Bool) :
    RaisesE (fun e => e = .valueError ∨ (e = .rangeTypeError ∧ cFloatPair = true))
      (precheck zero cls c lo hi cA cB cO cFloatPair) := by
  have V : RaisesE (β := Stats α) (fun e => e = .valueError ∨ (e = .rangeTypeError ∧ cFloatPair = true))
    (.error .valueError) := .error (.inl rfl)
  unfold precheck
  refine .ite V ?_
  cases stats c lo hi with
  | none => exact V
  | some st =>
    show RaisesE _ (if cFloatPair = true then _ else _)
    by_cases hf : cFloatPair = true
    · rw [if_pos hf]; exact .error (.inr ⟨rfl, hf⟩)
    · rw [if_neg hf]; exact .ite V (.ite V .ok)

theorem planConvex_raises [Sub α] [Add α] [Mul α] (zero negInf posInf : α) (cls : Cls) (st : Stats α)
    (range w v : α) (cA cB : Cons α) (cC : Cons Int) (cO : Cons α) :
    RaisesE (· = .optimizationError) (planConvex zero negInf posInf cls st range w v cA cB cC cO) := by
  have E : RaisesE (β := ConvexPlan α) (· = .optimizationError) (.error .optimizationError) := .error rfl
  cases cls
  · exact .ite E <| .ite E <| .ite E .ok
  · exact .ite E <| .ite E <| .ite E <| .ite E <| .ite .ok .ok

/-- a stage that got past `if c then raise x` -/
theorem of_ite_error_eq_ok {c : Prop} [Decidable c] {x : Exc} {r : Except Exc β} {b : β}
    (h : (if c then .error x else r) = .ok b) : ¬ c ∧ r = .ok b := by
  split_ifs at h with hc; exact ⟨hc, h⟩

theorem precheck_ok (zero : α) (cls : Cls) (c : Censored α) (lo hi : α) (cA cB cO : Cons α)
    (cFloatPair : Bool) (st : Stats α) (h : precheck zero cls c lo hi cA cB cO cFloatPair = .ok st) :
    3 ≤ c.n ∧ stats c lo hi = some st ∧ cFloatPair = false ∧
      (oPinned zero cls cO = true → aBad st.yMin cA = false ∧ bBad st.yMax cB = false) := by
  unfold precheck at h
  obtain ⟨h1, h⟩ := of_ite_error_eq_ok h
  cases hst : stats c lo hi with
  | none => rw [hst] at h; nomatch h
  | some st' =>
    rw [hst] at h
    obtain ⟨hf, h⟩ := of_ite_error_eq_ok h
    obtain ⟨ha, h⟩ := of_ite_error_eq_ok h
    obtain ⟨hb, h⟩ := of_ite_error_eq_ok h
    obtain rfl := Except.ok.inj h
    -- `ha : ¬ (oPinned && aBad)`: with the noise pinned, `aBad` must be false; the same for `hb`
    exact ⟨by omega, rfl, by simpa using hf, fun hp =>
      ⟨Bool.eq_false_iff.mpr fun h => ha (by rw [hp, h]; rfl), Bool.eq_false_iff.mpr fun h => hb (by rw [hp, h]; rfl)⟩⟩

theorem passesOutcome_error (passes : List (Pass β)) (e : Exc) (h : passesOutcome passes = .error e) :
    ∃ p ∈ passes, passOutcome p = .error e := by
  induction passes with
  | nil => nomatch h
  | cons p rest ih =>
    unfold passesOutcome at h
    cases hp : passOutcome p with
    | error e' =>
      rw [hp] at h
      exact ⟨p, List.mem_cons_self, Except.error.inj h ▸ hp⟩
    | ok r =>
      rw [hp] at h
      cases hr : passesOutcome rest with
      | error e' =>
        rw [hr] at h
        obtain ⟨q, hq, hqe⟩ := ih (Except.error.inj h ▸ hr)
        exact ⟨q, List.mem_cons_of_mem _ hq, hqe⟩
      | ok rs => rw [hr] at h; nomatch h

/-- **C11-T6 (the loop and after).** `fit` ends in an exception other than `OptimizationError` only
if some pass of the loop (a) failed in the box construction (`OptimizationError`, by
`planConvex_raises`), or (b) ran the bucket fix-ups out of range — `IndexError`, finding F2 — or
(c) called the optimiser with fewer than five members — scipy's `ValueError`, finding F3. -/
theorem fitOutcome_classes [LinearOrder β] (inf : β) (isFinite : β → Bool) (passes : List (Pass β)) (e : Exc)
    (h : fitOutcome inf isFinite passes = .error e) :
    e = .optimizationError ∨ (∃ p ∈ passes, p.planErr = some e) ∨
      (e = .indexError ∧ ∃ p ∈ passes, p.bucketsOk = false) ∨
      (e = .scipyValueError ∧ ∃ p ∈ passes, 0 < p.nBounds ∧ p.popSize < scipyMinPop) := by
  unfold fitOutcome at h
  cases hp : passesOutcome passes with
  | error e' =>
    rw [hp] at h
    obtain rfl : e' = e := Except.error.inj h
    obtain ⟨p, hpm, hpe⟩ := passesOutcome_error passes _ hp
    unfold passOutcome at hpe
    cases hpl : p.planErr with
    | some e'' =>
      rw [hpl] at hpe
      exact .inr (.inl ⟨p, hpm, Except.error.inj hpe ▸ hpl⟩)
    | none =>
      rw [hpl] at hpe
      simp only at hpe
      split_ifs at hpe with h1 h2
      · right; right; left
        refine ⟨by cases hpe; rfl, p, hpm, by simpa using h1⟩
      · right; right; right
        refine ⟨by cases hpe; rfl, p, hpm, by simpa using h2⟩
  | ok rs =>
    rw [hp] at h
    simp only at h
    split at h
    · split_ifs at h; left; cases h; rfl
    · left; cases h; rfl

end exc

section feas
variable {α : Type} [LinearOrder α]

theorem minList_eq_min? (l : List α) : minList l = l.min? := by
  cases l with
  | nil => rfl
  | cons x xs => simp only [minList, List.min?_cons', funext₂ pymin_eq]

theorem maxList_eq_max? (l : List α) : maxList l = l.max? := by
  cases l with
  | nil => rfl
  | cons x xs => simp only [maxList, List.max?_cons', funext₂ pymax_eq]

theorem minList_eq_some_iff {l : List α} {m : α} : minList l = some m ↔ m ∈ l ∧ ∀ y ∈ l, m ≤ y := by
  rw [minList_eq_min?, List.min?_eq_some_iff]

theorem maxList_eq_some_iff {l : List α} {m : α} : maxList l = some m ↔ m ∈ l ∧ ∀ y ∈ l, y ≤ m := by
  rw [maxList_eq_max?, List.max?_eq_some_iff]

theorem minList_perm {l l' : List α} (h : l.Perm l') : minList l = minList l' := by
  ext m; simp only [minList_eq_some_iff, h.mem_iff]

theorem maxList_perm {l l' : List α} (h : l.Perm l') : maxList l = maxList l' := by
  ext m; simp only [maxList_eq_some_iff, h.mem_iff]

theorem mem_observed (ys : List α) (lo hi y : α) (h : y ∈ (censor ys lo hi).observed) : lo < y ∧ y ≤ hi := by
  simp only [censor, List.mem_filter, Bool.and_eq_true, decide_eq_true_eq] at h
  exact h.2

theorem stats_bounds (ys : List α) (lo hi : α) (st : Stats α) (h : stats (censor ys lo hi) lo hi = some st) :
    (∀ y ∈ (censor ys lo hi).observed, st.yMin ≤ y ∧ y ≤ st.yMax) ∧
      (0 < (censor ys lo hi).nLower → st.yMin = lo) ∧ (0 < (censor ys lo hi).nUpper → st.yMax = hi) := by
  unfold stats at h
  split at h
  · next mn mx hmn hmx =>
    obtain rfl := Option.some.inj h
    refine ⟨fun y hy => ⟨?_, ?_⟩, fun hpos => if_neg (by omega), fun hpos => if_neg (by omega)⟩
    · show (if _ then mn else lo) ≤ y
      split_ifs
      exacts [(minList_eq_some_iff.mp hmn).2 y hy, (mem_observed ys lo hi y hy).1.le]
    · show y ≤ (if _ then mx else hi)
      split_ifs
      exacts [(maxList_eq_some_iff.mp hmx).2 y hy, (mem_observed ys lo hi y hy).2]
  · nomatch h

/-- **C11-T5 (noiseless class).** Once the pre-loop checks pass, every `a` in the box lies at or below
every uncensored observation and every `b` in the box at or above; and the box reaches each limit beyond
which observations were censored. -/
theorem quad_box_feasible [Sub α] [Add α] [Mul α] (zero negInf posInf : α) (ys : List α) (lo hi : α)
    (cA cB cO : Cons α) (cC : Cons Int) (cFloatPair : Bool) (st : Stats α) (w v : α) (p : ConvexPlan α)
    (hpre : precheck zero .quad (censor ys lo hi) lo hi cA cB cO cFloatPair = .ok st)
    (hplan : planConvex zero negInf posInf .quad st (st.yMax - st.yMin) w v cA cB cC cO = .ok p) :
    (∀ y ∈ (censor ys lo hi).observed, p.aBox.hi ≤ y ∧ y ≤ p.bBox.lo) ∧
      (0 < (censor ys lo hi).nLower → p.aBox.hi ≤ lo) ∧ (0 < (censor ys lo hi).nUpper → hi ≤ p.bBox.lo) := by
  obtain ⟨_, hst, _, hab⟩ := precheck_ok zero .quad _ lo hi cA cB cO cFloatPair st hpre
  obtain ⟨ha, hb⟩ := hab rfl
  obtain ⟨hobs, hlo, hhi⟩ := stats_bounds ys lo hi st hst
  obtain rfl := Except.ok.inj (of_ite_error_eq_ok (of_ite_error_eq_ok (of_ite_error_eq_ok hplan).2).2).2
  have hA : (boxOf (st.yMin - w * (st.yMax - st.yMin)) st.yMin cA).hi ≤ st.yMin := by
    cases cA with
    | absent => exact le_refl _
    | fixed a =>
      simp only [aBad, decide_eq_false_iff_not] at ha
      exact not_lt.mp ha
    | interval l h => simp only [boxOf, pymin_eq]; exact min_le_left _ _
  have hB : st.yMax ≤ (boxOf st.yMax (st.yMax + w * (st.yMax - st.yMin)) cB).lo := by
    cases cB with
    | absent => exact le_refl _
    | fixed b =>
      simp only [bBad, decide_eq_false_iff_not] at hb
      exact not_lt.mp hb
    | interval l h => simp only [boxOf, pymax_eq]; exact le_max_left _ _
  refine ⟨?_, ?_, ?_⟩
  · intro y hy
    exact ⟨le_trans hA (hobs y hy).1, le_trans (hobs y hy).2 hB⟩
  · intro hpos; rw [← hlo hpos]; exact hA
  · intro hpos; rw [← hhi hpos]; exact hB

end feas

section inv
variable {α : Type} [LinearOrder α]

/-- two censored summaries that agree on the counts and on the *multiset* of observed values -/
structure SameSummary (c c' : Censored α) : Prop where
  n : c.n = c'.n
  nLower : c.nLower = c'.nLower
  nUpper : c.nUpper = c'.nUpper
  observed : c.observed.Perm c'.observed

theorem censor_perm {ys ys' : List α} (h : ys.Perm ys') (lo hi : α) :
    SameSummary (censor ys lo hi) (censor ys' lo hi) :=
  ⟨h.length_eq, (h.filter _).length_eq, (h.filter _).length_eq, h.filter _⟩

/-- two observations on the same side of the limits (and equal if they are inside) -/
def SameSide (lo hi y y' : α) : Prop :=
  (y ≤ lo ∧ y' ≤ lo) ∨ (hi < y ∧ hi < y') ∨ (lo < y ∧ y ≤ hi ∧ y' = y)

theorem censor_sameSide {ys ys' : List α} (lo hi : α) (hlh : lo < hi) (h : List.Forall₂ (SameSide lo hi) ys ys') :
    censor ys lo hi = censor ys' lo hi := by
  induction h with
  | nil => rfl
  | @cons y y' t t' hy _ ih =>
    simp only [censor, Censored.mk.injEq] at ih ⊢
    obtain ⟨i1, i2, i3, i4⟩ := ih
    -- `censor` is a length and three filters (`· ≤ lo`, `hi < ·`, `lo < · ≤ hi`); in each case both heads pass the
    -- same one filter and fail the other two
    rcases hy with ⟨h1, h2⟩ | ⟨h1, h2⟩ | ⟨h1, h2, rfl⟩
    · -- both censored below: counted in `nLower` only
      have a1 : ¬ lo < y := not_lt.mpr h1
      have a2 : ¬ lo < y' := not_lt.mpr h2
      have a3 : ¬ hi < y := not_lt.mpr (le_trans h1 hlh.le)
      have a4 : ¬ hi < y' := not_lt.mpr (le_trans h2 hlh.le)
      simp [h1, h2, a1, a2, a3, a4, i1, i2, i3, i4]
    · -- both censored above: counted in `nUpper` only
      have a1 : ¬ y ≤ lo := not_le.mpr (lt_trans hlh h1)
      have a2 : ¬ y' ≤ lo := not_le.mpr (lt_trans hlh h2)
      have a3 : ¬ y ≤ hi := not_le.mpr h1
      have a4 : ¬ y' ≤ hi := not_le.mpr h2
      simp [h1, h2, a1, a2, a3, a4, i1, i2, i3, i4]
    · -- the same observed value on both sides: kept in `observed` only
      have a1 : ¬ y' ≤ lo := not_le.mpr h1
      have a2 : ¬ hi < y' := not_lt.mpr h2
      simp [h1, h2, a1, a2, i1, i2, i3, i4]

theorem stats_congr {c c' : Censored α} (h : SameSummary c c') (lo hi : α) : stats c lo hi = stats c' lo hi := by
  unfold stats
  rw [minList_perm h.observed, maxList_perm h.observed, h.n, h.nLower, h.nUpper]

theorem precheck_congr (zero : α) (cls : Cls) {c c' : Censored α} (h : SameSummary c c') (lo hi : α)
    (cA cB cO : Cons α) (cf : Bool) :
    precheck zero cls c lo hi cA cB cO cf = precheck zero cls c' lo hi cA cB cO cf := by
  unfold precheck
  rw [stats_congr h lo hi, h.n]

/-- `np.unique(…, return_counts=True)` does not see the order of its input -/
theorem uniqueCounts_perm {pts pts' : List α} (h : pts.Perm pts') :
    uniqueCounts (pts.map fun v => (v, 1)) = uniqueCounts (pts'.map fun v => (v, 1)) := by
  obtain ⟨hs, hm, hc⟩ := unique_spec pts
  obtain ⟨hs', hm', hc'⟩ := unique_spec pts'
  have hz := hs.eq_of_mem_iff hs' fun z => by rw [hm, hm', h.mem_iff]
  -- a list of pairs is the zip of its two projections
  rw [← List.zip_unzip (uniqueCounts _), ← List.zip_unzip (uniqueCounts (pts'.map _)), List.unzip_eq_map,
    List.unzip_eq_map, hc, hc', hz]
  exact congrArg _ (List.map_congr_left fun z _ => mult_perm h z)

omit [LinearOrder α] in
theorem pointValues_perm {obs obs' : List α} (h : obs.Perm obs') (e : α) (ll lu : Option α) (e' : α) :
    (pointValues e ll obs lu e').Perm (pointValues e ll obs' lu e') := by
  unfold pointValues
  exact List.Perm.cons _ (((List.Perm.append_left _ h).append_right _).append_right _)

theorem buckets_perm {obs obs' : List α} (h : obs.Perm obs') (e : α) (ll lu : Option α) (e' : α) (nl nu : Nat) :
    zsModel e ll obs lu e' = zsModel e ll obs' lu e' ∧ ksModel? e ll obs lu e' nl nu = ksModel? e ll obs' lu e' nl nu := by
  have := uniqueCounts_perm (pointValues_perm h e ll lu e')
  unfold zsModel ksModel? points
  rw [this]
  exact ⟨rfl, rfl⟩

variable [Sub α] [Add α] [Mul α]

/-- everything handed to the optimiser is a function of `(n, n_lower, n_upper, multiset of observed values)` -/
theorem fitInputsOf_congr (zero negInf posInf : α) (rndOf : List α → α → α)
    (hr : ∀ l l' : List α, l.Perm l' → rndOf l = rndOf l') (cls : Cls) (lo hi : α) (cA cB : Cons α)
    (cC : Cons Int) (cO : Cons α) (cf : Bool) (ws : List α) (v : α) {c c' : Censored α} (h : SameSummary c c') :
    fitInputsOf zero negInf posInf rndOf cls lo hi cA cB cC cO cf ws v c
      = fitInputsOf zero negInf posInf rndOf cls lo hi cA cB cC cO cf ws v c' := by
  unfold fitInputsOf
  simp only
  rw [precheck_congr zero cls h lo hi cA cB cO cf, h.n, h.nLower, h.nUpper, hr _ _ h.observed]
  refine congrArg (Inputs.mk _ _ _ _ _ _) ?_
  cases precheck zero cls c' lo hi cA cB cO cf with
  | error e => rfl
  | ok st =>
    simp only
    apply List.map_congr_left
    intro w _
    cases planConvex zero negInf posInf cls st (st.yMax - st.yMin) w v cA cB cC cO with
    | error e => rfl
    | ok p =>
      simp only
      obtain ⟨hz, hk⟩ := buckets_perm (h.observed.map (rndOf c'.observed)) (rndOf c'.observed p.edgeLo)
        (if c'.nLower = 0 then none else some (rndOf c'.observed lo))
        (if c'.nUpper = 0 then none else some (rndOf c'.observed hi)) (rndOf c'.observed p.edgeHi)
        c'.nLower c'.nUpper
      rw [hz, hk]

/-- **C11-T1.** Permuting the sample changes nothing that is handed to the optimiser. -/
theorem fit_inputs_perm_invariant (zero negInf posInf : α) (rndOf : List α → α → α)
    (hr : ∀ l l' : List α, l.Perm l' → rndOf l = rndOf l') (cls : Cls) (lo hi : α) (cA cB : Cons α)
    (cC : Cons Int) (cO : Cons α) (cf : Bool) (ws : List α) (v : α) {ys ys' : List α} (h : ys.Perm ys') :
    fitInputs zero negInf posInf rndOf cls lo hi cA cB cC cO cf ws v ys
      = fitInputs zero negInf posInf rndOf cls lo hi cA cB cC cO cf ws v ys' :=
  fitInputsOf_congr zero negInf posInf rndOf hr cls lo hi cA cB cC cO cf ws v (censor_perm h lo hi)

end inv

end Opda.Fit

import Mathlib.Analysis.SpecialFunctions.Log.Basic
import Mathlib.Analysis.SpecialFunctions.Sqrt
import Mathlib.Analysis.SpecialFunctions.Pow.Real
import Mathlib.Tactic

/-! C01-T3 / C16-T3: the closed form of `dkw_epsilon`. -/
namespace Opda.Dkw
open Real

noncomputable def eps (n c : ℝ) : ℝ := Real.sqrt (Real.log (2 / (1 - c)) / (2 * n))

theorem log_arg_ge_one (c : ℝ) (hc0 : 0 ≤ c) (hc1 : c < 1) : 1 ≤ 2 / (1 - c) :=
  (one_le_div (sub_pos.2 hc1)).2 ((sub_le_self 1 hc0).trans one_le_two)

theorem eps_nonneg (n c : ℝ) : 0 ≤ eps n c := Real.sqrt_nonneg _

theorem eps_spec (n c : ℝ) (hn : 0 < n) (hc0 : 0 ≤ c) (hc1 : c < 1) :
    2 * Real.exp (-2 * n * (eps n c)^2) = 1 - c := by
  have harg : 0 < 2 / (1 - c) := div_pos two_pos (sub_pos.2 hc1)
  have h2n : 0 < 2 * n := mul_pos two_pos hn
  have hq : 0 ≤ Real.log (2 / (1 - c)) / (2 * n) :=
    div_nonneg (Real.log_nonneg (log_arg_ge_one c hc0 hc1)) h2n.le
  unfold eps
  rw [Real.sq_sqrt hq, neg_mul, neg_mul, mul_div_cancel₀ _ h2n.ne', Real.exp_neg, Real.exp_log harg, inv_div,
    mul_div_cancel₀ _ two_ne_zero]

theorem eps_mono_c (n c c' : ℝ) (hn : 0 < n) (hc0 : 0 ≤ c) (hcc : c ≤ c') (hc1 : c' < 1) :
    eps n c ≤ eps n c' := by
  have h1 : 0 < 1 - c' := sub_pos.2 hc1
  have h2 : 1 - c' ≤ 1 - c := sub_le_sub_left hcc 1
  exact Real.sqrt_le_sqrt (div_le_div_of_nonneg_right
    (Real.log_le_log (div_pos two_pos (h1.trans_le h2)) (div_le_div_of_nonneg_left zero_le_two h1 h2))
    (mul_pos two_pos hn).le)

theorem eps_anti_n (n n' c : ℝ) (hn : 0 < n) (hnn : n ≤ n') (hc0 : 0 ≤ c) (hc1 : c < 1) :
    eps n' c ≤ eps n c :=
  Real.sqrt_le_sqrt (div_le_div_of_nonneg_left (Real.log_nonneg (log_arg_ge_one c hc0 hc1))
    (mul_pos two_pos hn) (mul_le_mul_of_nonneg_left hnn zero_le_two))

#print axioms eps_spec
end Opda.Dkw

import OpdaModel.Fit
import OpdaProofs.Emp
import Mathlib.Tactic

/-!
C10-T1/T2: the positional fix-ups of the code (`ks = counts[1:]`, `ks[0] = n_lower`, `ks[-2] -= 1`,
`ks[-1] = n_upper + 1`) produce the documented bucket counts **provided**
(A) the lower support edge lies strictly below every other point, and
(B) when observations are censored above, the upper limit lies strictly below the upper support edge.

Route: `np.unique(…, return_counts=True)` (= `atoms` at multiplicity 1) is *the* strictly increasing list
of the distinct points, each with its multiplicity (`unique_spec`); under A and B that list is
`edgeLo :: (ll.toList ++ xs ++ lu.toList ++ [edgeHi])` with `xs` the observations strictly between the limit
points (`zs_shape`).  The limits stay `Option`s throughout: the fix-ups and the documented counts are both
computed on this one shape, whichever limits are present.
-/
namespace Opda.Fit
open Opda.Emp
variable {E : Type} [LinearOrder E]

/-- total multiplicity recorded for the value `z`.  This is `Emp.weightEq` with weights in `ℕ`: `weightEq` and its
lemmas (`weightEq_atoms`, `weightEq_of_mem_sorted`, `atoms_perm`) are stated over an ordered field, so the counts
of `np.unique` get their own copies (`cnt_atoms`, `cnt_of_mem_sorted`, `FitInv.uniqueCounts_perm`) on top of the
monoid-generic `sum_map_atoms`, `mem_keys_atoms`, `sorted_atoms`. -/
def cnt (z : E) (l : List (E × Nat)) : Nat := (l.map fun p => if p.1 = z then p.2 else 0).sum

theorem cnt_cons (z : E) (p : E × Nat) (l : List (E × Nat)) :
    cnt z (p :: l) = (if p.1 = z then p.2 else 0) + cnt z l := rfl

theorem cnt_atoms (z : E) (l : List (E × Nat)) : cnt z (atoms l) = cnt z l :=
  sum_map_atoms (fun u x => if u = z then x else 0) (fun u x w => by split <;> rfl) l

theorem cnt_eq_zero_of_not_mem (z : E) (l : List (E × Nat)) (h : z ∉ l.map Prod.fst) : cnt z l = 0 := by
  induction l with
  | nil => rfl
  | cons hd tl ih =>
    simp only [List.map_cons, List.mem_cons, not_or] at h
    rw [cnt_cons, if_neg (Ne.symm h.1), ih h.2]

theorem cnt_of_mem_sorted (l : List (E × Nat)) (hs : Sorted l) (p : E × Nat) (hp : p ∈ l) :
    cnt p.1 l = p.2 := by
  induction l with
  | nil => nomatch hp
  | cons hd tl ih =>
    obtain ⟨hlt, hs'⟩ := sorted_cons.mp hs
    rcases List.mem_cons.mp hp with rfl | hp
    · have : p.1 ∉ tl.map Prod.fst := fun hm => by
        obtain ⟨q, hq, hq1⟩ := List.mem_map.mp hm
        exact lt_irrefl p.1 (hq1 ▸ hlt q hq)
      rw [cnt_cons, if_pos rfl, cnt_eq_zero_of_not_mem p.1 tl this, Nat.add_zero]
    · rw [cnt_cons, if_neg (hlt p hp).ne, ih hs' hp, Nat.zero_add]

theorem mult_cons (z y : E) (l : List E) : mult z (y :: l) = (if y = z then 1 else 0) + mult z l := by
  by_cases h : y = z
  · rw [if_pos h, mult, List.filter_cons_of_pos (by simpa using h), List.length_cons, Nat.add_comm]; rfl
  · rw [if_neg h, mult, List.filter_cons_of_neg (by simpa using h), Nat.zero_add]; rfl

theorem mult_append (z : E) (l₁ l₂ : List E) : mult z (l₁ ++ l₂) = mult z l₁ + mult z l₂ := by
  simp [mult]

theorem mult_eq_zero_of_not_mem (z : E) (l : List E) (h : z ∉ l) : mult z l = 0 := by
  simp only [mult, List.length_eq_zero_iff, List.filter_eq_nil_iff]
  intro a ha; simpa using fun h' : a = z => h (h' ▸ ha)

theorem mult_optionToList (z : E) (o : Option E) : mult z o.toList = if o = some z then 1 else 0 := by
  cases o with
  | none => simp [mult]
  | some x => by_cases h : x = z <;> simp [mult, h]

theorem cnt_points (z : E) (pts : List E) : cnt z (pts.map fun v => (v, 1)) = mult z pts := by
  induction pts with
  | nil => rfl
  | cons y ys ih =>
    rw [List.map_cons, cnt_cons, ih]
    exact (mult_cons z y ys).symm

/-- `np.unique(pts, return_counts=True)` -/
theorem unique_spec (pts : List E) :
    let U := uniqueCounts (pts.map fun v => (v, 1))
    (U.map Prod.fst).Pairwise (· < ·) ∧ (∀ z, z ∈ U.map Prod.fst ↔ z ∈ pts) ∧
      U.map Prod.snd = (U.map Prod.fst).map fun z => mult z pts := by
  intro U
  have hs : Sorted U := sorted_atoms _
  refine ⟨List.pairwise_map.mpr hs, fun z => (mem_keys_atoms z _).trans (by simp), ?_⟩
  rw [List.map_map]
  refine List.map_congr_left fun p hp => ?_
  show p.2 = mult p.1 pts
  rw [← cnt_of_mem_sorted U hs p hp, ← cnt_points]
  exact cnt_atoms p.1 (pts.map fun v => (v, 1))

theorem zsModel_spec (edgeLo : E) (ll : Option E) (obs : List E) (lu : Option E) (edgeHi : E) :
    (zsModel edgeLo ll obs lu edgeHi).Pairwise (· < ·) ∧
      (∀ z, z ∈ zsModel edgeLo ll obs lu edgeHi ↔ z ∈ pointValues edgeLo ll obs lu edgeHi) ∧
      (uniqueCounts (points edgeLo ll obs lu edgeHi)).map Prod.snd
        = (zsModel edgeLo ll obs lu edgeHi).map fun z => mult z (pointValues edgeLo ll obs lu edgeHi) :=
  unique_spec (pointValues edgeLo ll obs lu edgeHi)

theorem fixTail?_append (v : Nat) (xs : List Nat) (x y : Nat) :
    fixTail? v (xs ++ [x, y]) = some (xs ++ [x - 1, v]) := by
  induction xs with
  | nil => rfl
  | cons a xs ih =>
    rcases xs with _ | ⟨b, _ | ⟨c, xs⟩⟩
    · rfl
    · rfl
    · exact (congrArg (Option.map (a :: ·)) ih).trans rfl

theorem fixTail?_isSome_iff (v : Nat) (l : List Nat) : (fixTail? v l).isSome ↔ 2 ≤ l.length := by
  fun_induction fixTail? v l <;> simp_all

theorem setHead?_isSome_iff (v : Nat) (l : List Nat) : (setHead? v l).isSome ↔ 1 ≤ l.length := by
  cases l <;> simp [setHead?]

omit [LinearOrder E] in
/-- `ks[0] = v` on a count list that starts with the count of the lower limit, when there is one -/
theorem setHead?_toList (o : Option E) (f : E → Nat) (v : Nat) (r : List Nat) :
    (if o.isSome then setHead? v (o.toList.map f ++ r) else some (o.toList.map f ++ r))
      = some (o.toList.map (fun _ => v) ++ r) := by cases o <;> rfl

omit [LinearOrder E] in
/-- `ks[-2] -= 1; ks[-1] = v` on a count list that ends with the counts of the upper limit, when there is
one, and of the upper edge -/
theorem fixTail?_toList (o : Option E) (f : E → Nat) (v y : Nat) (r : List Nat) :
    (if o.isSome then fixTail? v (r ++ (o.toList.map f ++ [y])) else some (r ++ (o.toList.map f ++ [y])))
      = some (r ++ (o.toList.map (f · - 1) ++ [if o.isSome then v else y])) := by
  cases o with
  | none => rfl
  | some u => exact fixTail?_append v r (f u) y

theorem mult_perm {l l' : List E} (h : l.Perm l') (z : E) : mult z l = mult z l' := (h.filter _).length_eq

theorem mult_pointValues (edgeLo : E) (ll : Option E) (obs : List E) (lu : Option E) (edgeHi z : E) :
    mult z (pointValues edgeLo ll obs lu edgeHi) = (if edgeLo = z then 1 else 0) + ((if ll = some z then 1 else 0)
      + mult z obs + (if lu = some z then 1 else 0) + (if edgeHi = z then 1 else 0)) := by
  simp only [pointValues, mult_cons, mult_append, mult_optionToList, mult_eq_zero_of_not_mem z [] (by simp)]
  omega

section spec
variable (ll : Option E) (obs : List E) (lu : Option E) (edgeHi : E) (nLower nUpper : Nat)

/-- the part of `specCount` that does not look at the left end of the bucket -/
def specNoPrev (z : E) : Nat :=
  mult z obs + (if ll = some z then nLower else 0) + (if z = edgeHi then 1 else 0)

theorem specCount_eq (zPrev z : E) :
    specCount ll obs lu edgeHi nLower nUpper zPrev z
      = specNoPrev ll obs edgeHi nLower z + (if lu = some zPrev then nUpper else 0) := by
  unfold specCount specNoPrev; omega

/-- the documented counts along an edge list on which the upper limit, if any, is the last edge but one:
the right-censored observations go to the last bucket -/
theorem ksSpecOpen_shape (zp : E) (ys : List E) (h : ∀ x ∈ zp :: ys, lu ≠ some x) :
    ksSpecOpen ll obs lu edgeHi nLower nUpper (zp :: (ys ++ (lu.toList ++ [edgeHi])))
      = (ys ++ lu.toList).map (specNoPrev ll obs edgeHi nLower)
        ++ [specNoPrev ll obs edgeHi nLower edgeHi + if lu.isSome then nUpper else 0] := by
  induction ys generalizing zp with
  | nil =>
    cases lu with
    | none => simp [ksSpecOpen, specCount_eq]
    | some u => simp [ksSpecOpen, specCount_eq, h zp]
  | cons z rest ih =>
    show specCount ll obs lu edgeHi nLower nUpper zp z
      :: ksSpecOpen ll obs lu edgeHi nLower nUpper (z :: (rest ++ (lu.toList ++ [edgeHi]))) = _
    rw [ih z fun x hx => h x (List.mem_cons_of_mem _ hx), specCount_eq, if_neg (h zp (by simp))]
    rfl

theorem ksSpec_eq_open (closedLeft : Bool) (z0 : E) (zs : List E) (h : z0 ∉ obs) :
    ksSpec closedLeft ll obs lu edgeHi nLower nUpper (z0 :: zs)
      = ksSpecOpen ll obs lu edgeHi nLower nUpper (z0 :: zs) := by
  cases closedLeft with
  | false => rfl
  | true =>
    show addHead (closedExtra obs z0) _ = _
    rw [closedExtra, mult_eq_zero_of_not_mem z0 obs h]
    cases ksSpecOpen ll obs lu edgeHi nLower nUpper (z0 :: zs) <;> rfl

end spec

/-- The hypotheses of C10-T1: the side conditions (A) and (B); what the censoring step gives about the limits and
the observed values (`l < y ≤ u`, `l < u`); and that nothing lies beyond the upper edge (`ll_lt_hi`, `obs_le_hi`:
`edgeHi` is the rounded upper end of the box of `planConvex`, which the censoring step does not know).
They are assumed: no lemma derives them from `precheck` / `planConvex`, since the edges pass through the
black-box `rnd`; on every run the driver reports whether (A) and (B) hold (`C10.side_flags_of_hyps`). -/
structure BucketHyps (edgeLo : E) (ll : Option E) (obs : List E) (lu : Option E) (edgeHi : E) : Prop where
  /-- (A) the lower support edge lies strictly below every other point -/
  sideA : ∀ p ∈ ll.toList ++ obs ++ lu.toList ++ [edgeHi], edgeLo < p
  /-- (B) the upper limit lies strictly below the upper support edge -/
  sideB : ∀ u, lu = some u → u < edgeHi
  obs_gt_ll : ∀ l, ll = some l → ∀ y ∈ obs, l < y
  obs_le_lu : ∀ u, lu = some u → ∀ y ∈ obs, y ≤ u
  ll_lt_lu : ∀ l u, ll = some l → lu = some u → l < u
  ll_lt_hi : ∀ l, ll = some l → l < edgeHi
  obs_le_hi : ∀ y ∈ obs, y ≤ edgeHi

section T1
variable {edgeLo : E} {ll : Option E} {obs : List E} {lu : Option E} {edgeHi : E}

omit [LinearOrder E] in
theorem mem_pointValues {a : E} : a ∈ pointValues edgeLo ll obs lu edgeHi ↔
    a = edgeLo ∨ ll = some a ∨ a ∈ obs ∨ lu = some a ∨ a = edgeHi := by
  simp only [pointValues, List.mem_cons, List.mem_append, Option.mem_toList, List.not_mem_nil, or_false, or_assoc]

theorem zs_shape (H : BucketHyps edgeLo ll obs lu edgeHi) :
    ∃ xs : List E, zsModel edgeLo ll obs lu edgeHi = edgeLo :: (ll.toList ++ (xs ++ (lu.toList ++ [edgeHi]))) ∧
      ∀ x ∈ xs, x ∈ obs ∧ ll ≠ some x ∧ lu ≠ some x ∧ x ≠ edgeHi := by
  obtain ⟨hs, hm, -⟩ := zsModel_spec edgeLo ll obs lu edgeHi
  -- `xs`: the edges that are observations and none of the four special points
  let xs := (zsModel edgeLo ll obs lu edgeHi).filter fun z =>
    decide (z ∈ obs ∧ ll ≠ some z ∧ lu ≠ some z ∧ z ≠ edgeHi)
  have hxs : ∀ x, x ∈ xs ↔ x ∈ zsModel edgeLo ll obs lu edgeHi ∧ x ∈ obs ∧ ll ≠ some x ∧ lu ≠ some x ∧ x ≠ edgeHi :=
    fun x => List.mem_filter.trans (and_congr_right fun _ => decide_eq_true_iff)
  have hup : ∀ b, b ∈ lu.toList ++ [edgeHi] ↔ lu = some b ∨ b = edgeHi := fun b => by
    rw [List.mem_append, Option.mem_toList, List.mem_singleton]
  have pw : ∀ o : Option E, o.toList.Pairwise (· < ·) := fun o => by cases o <;> simp
  -- the edge list and the claimed one are strictly increasing and have the same members, hence are equal
  refine ⟨xs, hs.eq_of_mem_iff ?_ fun a => ?_, fun x hx => ((hxs x).mp hx).2⟩
  · -- strictly increasing, block by block: `u < edgeHi` by (B); an observation other than `u`, `edgeHi` is
    -- below both; the lower limit is below everything observed and both upper points; (A) for `edgeLo`
    have h3 : (lu.toList ++ [edgeHi]).Pairwise (· < ·) :=
      List.pairwise_append.mpr ⟨pw lu, List.pairwise_singleton _ _, fun u hu b hb =>
        List.mem_singleton.mp hb ▸ H.sideB u (Option.mem_toList.mp hu)⟩
    have h2 : (xs ++ (lu.toList ++ [edgeHi])).Pairwise (· < ·) :=
      List.pairwise_append.mpr ⟨hs.filter _, h3, fun x hx b hb => by
        obtain ⟨-, ho, -, hxu, hxh⟩ := (hxs x).mp hx
        rcases (hup b).mp hb with hb | rfl
        · exact lt_of_le_of_ne (H.obs_le_lu b hb x ho) fun h => hxu (h ▸ hb)
        · exact lt_of_le_of_ne (H.obs_le_hi x ho) hxh⟩
    have h1 : (ll.toList ++ (xs ++ (lu.toList ++ [edgeHi]))).Pairwise (· < ·) :=
      List.pairwise_append.mpr ⟨pw ll, h2, fun l hl b hb => by
        have hl : ll = some l := Option.mem_toList.mp hl
        rcases List.mem_append.mp hb with hb | hb
        · exact H.obs_gt_ll l hl b ((hxs b).mp hb).2.1
        · rcases (hup b).mp hb with hb | rfl
          exacts [H.ll_lt_lu l b hl hb, H.ll_lt_hi l hl]⟩
    refine List.pairwise_cons.mpr ⟨fun p hp => H.sideA p ?_, h1⟩
    simp only [List.mem_append, Option.mem_toList, List.mem_singleton] at hp ⊢
    rcases hp with h | h | h | h
    exacts [.inl (.inl (.inl h)), .inl (.inl (.inr ((hxs p).mp h).2.1)), .inl (.inr h), .inr h]
  · -- same members: an edge is a point (`zsModel_spec`); a point that is an observation and none of the
    -- special points is in `xs`.  After the rewrites both sides say that `a` is `edgeLo`, the lower limit, a middle
    -- element (an observation on the left, a member of `xs` on the right), the upper limit or `edgeHi`.
    rw [hm a, mem_pointValues, List.mem_cons, List.mem_append, List.mem_append, hup, Option.mem_toList, hxs, hm a,
      mem_pointValues]
    constructor
    · rintro (h | h | h | h | h)
      · exact .inl h
      · exact .inr (.inl h)
      · by_cases h1 : ll = some a
        · exact .inr (.inl h1)
        by_cases h2 : lu = some a
        · exact .inr (.inr (.inr (.inl h2)))
        by_cases h3 : a = edgeHi
        · exact .inr (.inr (.inr (.inr h3)))
        exact .inr (.inr (.inl ⟨.inr (.inr (.inl h)), h, h1, h2, h3⟩))
      · exact .inr (.inr (.inr (.inl h)))
      · exact .inr (.inr (.inr (.inr h)))
    · rintro (h | h | ⟨-, h, -⟩ | h | h)
      exacts [.inl h, .inr (.inl h), .inr (.inr (.inl h)), .inr (.inr (.inr (.inl h))), .inr (.inr (.inr (.inr h)))]

theorem ksSpec_shape (H : BucketHyps edgeLo ll obs lu edgeHi) (closedLeft : Bool) (nLower nUpper : Nat) :
    ∃ xs : List E, zsModel edgeLo ll obs lu edgeHi = edgeLo :: (ll.toList ++ (xs ++ (lu.toList ++ [edgeHi]))) ∧
      (∀ x ∈ xs, x ∈ obs ∧ ll ≠ some x ∧ lu ≠ some x ∧ x ≠ edgeHi) ∧
      ksSpec closedLeft ll obs lu edgeHi nLower nUpper (zsModel edgeLo ll obs lu edgeHi)
        = (ll.toList ++ xs ++ lu.toList).map (specNoPrev ll obs edgeHi nLower)
          ++ [specNoPrev ll obs edgeHi nLower edgeHi + if lu.isSome then nUpper else 0] := by
  obtain ⟨xs, hz, hxs⟩ := zs_shape H
  refine ⟨xs, hz, hxs, ?_⟩
  have hlo : edgeLo ∉ obs := fun h => lt_irrefl _ (H.sideA edgeLo (by simp [h]))
  have hu : ∀ x ∈ edgeLo :: (ll.toList ++ xs), lu ≠ some x := by
    simp only [List.mem_cons, List.mem_append, Option.mem_toList]
    rintro x (rfl | hl | hx) hlu
    · exact lt_irrefl _ (H.sideA x (by simp [hlu]))
    · exact lt_irrefl _ (H.ll_lt_lu x x hl hlu)
    · exact (hxs x hx).2.2.1 hlu
  rw [hz, ksSpec_eq_open _ _ _ _ _ _ _ _ _ hlo, ← List.append_assoc ll.toList xs, ksSpecOpen_shape _ _ _ _ _ _ _ _ hu]

/-- **C10-T1.** Under the side conditions (A) and (B) the code's positional fix-ups never index out of
range and produce exactly the documented bucket counts along the edges `zs` (whether or not the left-most
bucket is closed: under (A) no observation sits on the lower edge). -/
theorem buckets_model_eq_spec (closedLeft : Bool) (edgeLo : E) (ll : Option E) (obs : List E) (lu : Option E)
    (edgeHi : E) (nLower nUpper : Nat) (H : BucketHyps edgeLo ll obs lu edgeHi) :
    ksModel? edgeLo ll obs lu edgeHi nLower nUpper
      = some (ksSpec closedLeft ll obs lu edgeHi nLower nUpper (zsModel edgeLo ll obs lu edgeHi)) := by
  obtain ⟨xs, hz, hxs, hspec⟩ := ksSpec_shape H closedLeft nLower nUpper
  rw [hspec, ksModel?, (zsModel_spec edgeLo ll obs lu edgeHi).2.2, hz]
  simp only [List.map_cons, List.tail_cons, List.map_append, List.map_nil]
  rw [setHead?_toList, Option.bind_some, ← List.append_assoc, fixTail?_toList]
  simp only [List.append_assoc]
  -- What is left: the fixed-up count of each kind of edge is the documented count of the bucket ending there.
  -- `np.unique` counted a point `z` as `mult z (points)` = (1 if `z` is a limit or edge point) + `mult z obs`.
  have hlo : ∀ {z}, edgeLo < z → edgeLo ≠ z := fun h => h.ne
  -- the lower limit `l`: no observation equals it (`l < y`), so its count was the point itself;
  -- `ks[0] = n_lower` puts the left-censored observations there
  have e1 : ∀ l ∈ ll.toList, nLower = specNoPrev ll obs edgeHi nLower l := fun l hl => by
    have hl : ll = some l := Option.mem_toList.mp hl
    have hobs : mult l obs = 0 := mult_eq_zero_of_not_mem l obs fun h => lt_irrefl _ (H.obs_gt_ll l hl l h)
    rw [specNoPrev, hobs, if_pos hl, if_neg (H.ll_lt_hi l hl).ne, Nat.zero_add, Nat.add_zero]
  -- an edge `x` between the limit points is no point but an observation: counted `mult x obs`, untouched
  have e2 : ∀ x ∈ xs, mult x (pointValues edgeLo ll obs lu edgeHi) = specNoPrev ll obs edgeHi nLower x := fun x hx => by
    obtain ⟨ho, h1, h2, h3⟩ := hxs x hx
    rw [mult_pointValues, specNoPrev, if_neg (hlo (H.sideA x (by simp [ho]))), if_neg h1, if_neg h1, if_neg h2,
      if_neg h3, if_neg (Ne.symm h3)]
    omega
  -- the upper limit `u`: counted once as a point plus the observations equal to it (`y ≤ u`);
  -- `ks[-2] -= 1` removes the point and leaves those observations in the bucket ending at `u`
  have e3 : ∀ u ∈ lu.toList, mult u (pointValues edgeLo ll obs lu edgeHi) - 1 = specNoPrev ll obs edgeHi nLower u :=
    fun u hu => by
    have hu : lu = some u := Option.mem_toList.mp hu
    have h1 : ll ≠ some u := fun h => lt_irrefl _ (H.ll_lt_lu u u h hu)
    rw [mult_pointValues, specNoPrev, if_neg (hlo (H.sideA u (by simp [hu]))), if_neg h1, if_neg h1, if_pos hu,
      if_neg (H.sideB u hu).ne, if_neg (H.sideB u hu).ne']
    omega
  -- the upper edge: counted once plus the observations on it; with an upper limit there are none of those
  -- (`y ≤ u < edgeHi`) and `ks[-1] = n_upper + 1` is the documented `1` plus the right-censored observations
  have e4 : (if lu.isSome then nUpper + 1 else mult edgeHi (pointValues edgeLo ll obs lu edgeHi))
      = specNoPrev ll obs edgeHi nLower edgeHi + if lu.isSome then nUpper else 0 := by
    have hlh : ll ≠ some edgeHi := fun h => lt_irrefl _ (H.ll_lt_hi _ h)
    rw [specNoPrev, if_neg hlh, if_pos rfl]
    cases hlu : lu with
    | none => rw [mult_pointValues, if_neg (hlo (H.sideA edgeHi (by simp))), if_neg hlh]; simp
    | some u =>
      have hobs : mult edgeHi obs = 0 := mult_eq_zero_of_not_mem _ _ fun h =>
        lt_irrefl _ ((H.obs_le_lu u hlu _ h).trans_lt (H.sideB u hlu))
      simp only [hobs, Option.isSome_some, if_true]
      omega
  rw [List.map_congr_left e1, List.map_congr_left e2, List.map_congr_left e3, e4]

end T1

theorem sumNat_eq_sum (l : List Nat) : sumNat l = l.sum := by
  induction l with
  | nil => rfl
  | cons x xs ih => simp [sumNat, ih]

theorem sum_map_ite_eq (Z : List E) (hn : Z.Nodup) (a : E) (c : Nat) :
    (Z.map fun z => if z = a then c else 0).sum = if a ∈ Z then c else 0 := by
  rw [List.sum_map_eq_nsmul_single a _ (fun _ h _ => if_neg h), hn.count, if_pos rfl]
  split_ifs <;> simp

theorem sum_map_mult (Z : List E) (hn : Z.Nodup) (obs : List E) (h : ∀ y ∈ obs, y ∈ Z) :
    (Z.map fun z => mult z obs).sum = obs.length := by
  induction obs with
  | nil => simp [mult]
  | cons y ys ih =>
    simp only [mult_cons, @eq_comm _ y, List.sum_map_add, sum_map_ite_eq Z hn y 1, if_pos (h y List.mem_cons_self),
      ih fun y' hy' => h y' (List.mem_cons_of_mem _ hy'), List.length_cons]
    omega

/-- **C10-T2.** Under (A) and (B) the model's counts sum to `n_lower + #observed + n_upper + 1 = n + 1`
(the censored counts enter only when the corresponding limit point is present, i.e. when they are
positive). -/
theorem sum_ks_eq (edgeLo : E) (ll : Option E) (obs : List E) (lu : Option E)
    (edgeHi : E) (nLower nUpper : Nat) (H : BucketHyps edgeLo ll obs lu edgeHi) :
    ∃ ks, ksModel? edgeLo ll obs lu edgeHi nLower nUpper = some ks ∧
      sumNat ks = (if ll.isSome then nLower else 0) + obs.length + (if lu.isSome then nUpper else 0) + 1 := by
  refine ⟨_, buckets_model_eq_spec false edgeLo ll obs lu edgeHi nLower nUpper H, ?_⟩
  obtain ⟨xs, hz, -, hspec⟩ := ksSpec_shape H false nLower nUpper
  obtain ⟨hs, hm, -⟩ := zsModel_spec edgeLo ll obs lu edgeHi
  -- `Z`: the edges other than the lower one; every observation is one of them, each edge once
  generalize hZ : ll.toList ++ (xs ++ (lu.toList ++ [edgeHi])) = Z at hz
  have hnd : Z.Nodup := (List.pairwise_cons.mp (hz ▸ hs :)).2.imp ne_of_lt
  have hobs : ∀ y ∈ obs, y ∈ Z := fun y hy => by
    have hy' : edgeLo < y := H.sideA y (by simp [hy])
    exact ((List.mem_cons.mp (hz ▸ (hm y).mpr (by simp [pointValues, hy]) :)).resolve_left hy'.ne')
  have hl : (Z.map fun z => if ll = some z then nLower else 0).sum = if ll.isSome then nLower else 0 := by
    cases ll with
    | none => simp
    | some l =>
      simp only [Option.some.injEq, @eq_comm _ l, sum_map_ite_eq Z hnd l nLower]
      simp [← hZ]
  have hsum : ((ll.toList ++ xs ++ lu.toList).map (specNoPrev ll obs edgeHi nLower)
      ++ [specNoPrev ll obs edgeHi nLower edgeHi + if lu.isSome then nUpper else 0]).sum
      = (Z.map (specNoPrev ll obs edgeHi nLower)).sum + if lu.isSome then nUpper else 0 := by
    simp only [← hZ, List.map_append, List.sum_append, List.map_cons, List.map_nil, List.sum_cons, List.sum_nil]
    omega
  have hhi : edgeHi ∈ Z := by simp [← hZ]
  rw [hspec, sumNat_eq_sum, hsum, show specNoPrev ll obs edgeHi nLower
      = fun z => mult z obs + (if ll = some z then nLower else 0) + (if z = edgeHi then 1 else 0) from rfl,
    List.sum_map_add, List.sum_map_add, sum_map_mult Z hnd obs hobs, hl, sum_map_ite_eq Z hnd edgeHi 1,
    if_pos hhi]
  omega

/-- the two fix-ups in a row: `ks[0] = …` needs one entry, `ks[-2] -= 1` two (C11-T4, finding F2) -/
theorem fixups_isSome_iff (a b : Bool) (v w : Nat) (ks : List Nat) :
    ((if a then setHead? v ks else some ks).bind fun ks => if b then fixTail? w ks else some ks).isSome
      ↔ (a → 1 ≤ ks.length) ∧ (b → 2 ≤ ks.length) := by
  cases a <;> cases b <;> rcases ks with _ | ⟨k, ks⟩ <;> simp [setHead?, fixTail?_isSome_iff]

end Opda.Fit

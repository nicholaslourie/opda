import OpdaModel.NoisyFloat
import OpdaProofs.NoisyLogic
import OpdaProofs.NoisyReal
import Mathlib.Probability.Distributions.Gaussian.Real
import Mathlib.Analysis.SpecialFunctions.Gaussian.GaussianIntegral
import Mathlib.Analysis.Calculus.MeanValue
import Mathlib.MeasureTheory.Integral.Gamma
import Mathlib.Analysis.Real.Pi.Bounds
import Mathlib.Analysis.SpecialFunctions.Gamma.BohrMollerup
import Mathlib.Tactic

/-!
C06-T5 (noiseless regime): when `0 < o < 1e-6 (b−a)` the code ignores the noise and returns the noise-free law `F_Z`.
The true law is the mixture `y ↦ ∫ F_Z(y − e) dN(0, o²)(e)`.  `F_Z` inherits every modulus of continuity `ω` of
`t ↦ t^{c/2}` on `[0, 1]` (both shapes), so the two differ by at most `E ω(|E|/(b−a))`.  For `c ≥ 2`, `ω(r) = (c/2) r`
and `E|E| = o √(2/π)` give `c/(2(b−a)) · o √(2/π) ≤ 0.4 · c · o / (b−a)` — the constant in the property.

`c = 1`: the noise-free law is `√((y−a)/(b−a))` (convex) resp. `1 − √((b−y)/(b−a))` (concave) on the
support: not Lipschitz, but Hölder-½ with constant `1/√(b−a)` (`ω = √`).  The two differ by at most `E√|E| / √(b−a)` with
`E√|E| = (2o²)^{1/4} Γ(3/4)/√π = 0.82218… · √o`; `Γ(3/4) ≤ 1.2345` follows from the log-convexity of `Γ` at the
midpoint `19/4` of `9/2` and `5`, whence `≤ 0.83 · √(o/(b−a))` — the constant in the property.
-/
namespace Opda.Noisy
open MeasureTheory ProbabilityTheory Real Set Filter Topology
open scoped NNReal ENNReal

theorem smoothing_modulus (ν : Measure ℝ) [IsProbabilityMeasure ν] (G : ℝ → ℝ) (ω : ℝ → ℝ)
    (hG : ∀ x y, |G x - G y| ≤ ω |x - y|) (hω : Continuous ω) (hω0 : ω 0 = 0)
    (hint : Integrable (fun e : ℝ => ω |e|) ν) (y : ℝ) :
    |G y - ∫ e, G (y - e) ∂ν| ≤ ∫ e, ω |e| ∂ν := by
  -- `G` is continuous: `|G x − G y| ≤ ω |x − y| → 0`
  have hGc : Continuous G := by
    refine continuous_iff_continuousAt.mpr fun y => tendsto_iff_dist_tendsto_zero.mpr ?_
    refine squeeze_zero (g := fun x => ω |x - y|) (fun x => dist_nonneg) (fun x => hG x y) ?_
    have := (by fun_prop : Continuous fun x : ℝ => ω |x - y|).tendsto y
    simpa [hω0] using this
  have hb : ∀ e, |G y - G (y - e)| ≤ ω |e| := by
    intro e
    have := hG y (y - e)
    simpa using this
  have hGi : Integrable (fun e => G (y - e)) ν := by
    refine Integrable.mono' ((integrable_const |G y|).add hint) ?_ ?_
    · exact (hGc.comp (continuous_const.sub continuous_id)).aestronglyMeasurable
    · refine ae_of_all _ (fun e => ?_)
      have h1 := hb e
      have h2 : |G (y - e)| ≤ |G y| + |G y - G (y - e)| := by
        have := abs_sub_abs_le_abs_sub (G (y - e)) (G y)
        rw [abs_sub_comm (G (y - e)) (G y)] at this
        linarith
      simp only [Real.norm_eq_abs, Pi.add_apply]
      linarith
  have hdiff : G y - ∫ e, G (y - e) ∂ν = ∫ e, (G y - G (y - e)) ∂ν := by
    rw [integral_sub (integrable_const _) hGi]; simp
  rw [hdiff]
  refine (abs_integral_le_integral_abs).trans ?_
  apply integral_mono
  · exact ((integrable_const _).sub hGi).abs
  · exact hint
  · exact hb

theorem integral_abs_rpow_gaussianReal (v : ℝ≥0) (hv : v ≠ 0) (r : ℝ) (hr : -1 < r) :
    ∫ e, |e| ^ r ∂(gaussianReal 0 v) = (2 * (v:ℝ)) ^ (r / 2) * Real.Gamma ((r + 1) / 2) / √π := by
  have hw : (0:ℝ) < 2 * (v:ℝ) := mul_pos two_pos (NNReal.coe_pos.mpr (pos_iff_ne_zero.mpr hv))
  have hb : (0:ℝ) < (2 * (v:ℝ))⁻¹ := inv_pos.mpr hw
  have hpi : (0:ℝ) < π := Real.pi_pos
  rw [integral_gaussianReal_eq_integral_smul hv]
  have e1 : ∀ x : ℝ, gaussianPDFReal 0 v x • |x| ^ r
      = (√(2 * π * v))⁻¹ * ((fun t : ℝ => t ^ r * Real.exp (-(2 * (v:ℝ))⁻¹ * t ^ (2:ℝ))) |x|) := by
    intro x
    simp only [gaussianPDFReal, smul_eq_mul, sub_zero]
    rw [Real.rpow_two, sq_abs, show -x ^ 2 / (2 * (v:ℝ)) = -(2 * (v:ℝ))⁻¹ * x ^ 2 by rw [neg_mul, inv_mul_eq_div, neg_div]]
    ring
  -- `∫ |x|^r e^{−x²/(2v)} dx = 2 ∫₀^∞ … = (2v)^{(r+1)/2} Γ((r+1)/2)`
  have e2 : ∫ x : ℝ, (fun t : ℝ => t ^ r * Real.exp (-(2 * (v:ℝ))⁻¹ * t ^ (2:ℝ))) |x|
      = 2 * ((2 * (v:ℝ)) ^ (r / 2) * √(2 * (v:ℝ)) * (1 / 2) * Real.Gamma (r / 2 + 1 / 2)) := by
    -- `integral_rpow_mul_exp_neg_mul_rpow` is `∫₀^∞ t^q e^{−b t^p} dt = b^{−(q+1)/p} Γ((q+1)/p)/p`, here with `p = 2`, `b = (2v)⁻¹`
    rw [integral_comp_abs (f := fun t : ℝ => t ^ r * Real.exp (-(2 * (v:ℝ))⁻¹ * t ^ (2:ℝ))),
      integral_rpow_mul_exp_neg_mul_rpow (by norm_num) hr hb,
      neg_div, Real.rpow_neg hb.le, Real.inv_rpow hw.le, inv_inv,
      show (r + 1) / 2 = r / 2 + 1 / 2 by ring, Real.rpow_add hw, ← Real.sqrt_eq_rpow]
  simp only [e1]
  rw [integral_const_mul, e2, show (r + 1) / 2 = r / 2 + 1 / 2 by ring,
    show 2 * π * (v:ℝ) = π * (2 * v) by ring, Real.sqrt_mul hpi.le]
  have h2 : √(2 * (v:ℝ)) ≠ 0 := (Real.sqrt_pos.mpr hw).ne'
  calc _ = (2 * (v:ℝ)) ^ (r / 2) * Real.Gamma (r / 2 + 1 / 2) * ((√(2 * (v:ℝ)))⁻¹ * √(2 * (v:ℝ))) * (√π)⁻¹ := by ring
    _ = _ := by rw [inv_mul_cancel₀ h2, mul_one]; exact (div_eq_mul_inv _ _).symm

/- The statements spell the variance `o²` of the noise `⟨o ^ 2, sq_nonneg _⟩` (noiseless regime) or
`NNReal.mk (o ^ 2) (sq_nonneg o)` (`NoisyLaw.lean`): definitionally equal, so `exact` / `show` pass from one to the other,
`rw` does not; and the instance `IsProbabilityMeasure (gaussianReal 0 v)` is found only for `v` of type `ℝ≥0`, not for the
subtype the anonymous constructor elaborates to, whence the `set v : ℝ≥0 := …` in the proofs below. -/

theorem sq_nnreal_ne_zero {o : ℝ} (ho : 0 < o) : (⟨o ^ 2, sq_nonneg _⟩ : ℝ≥0) ≠ 0 := fun h0 =>
  (pow_pos ho 2).ne' (congrArg NNReal.toReal h0)

/-- every absolute moment of a normal law is finite -/
theorem integrable_abs_rpow_gaussianReal (v r : ℝ≥0) : Integrable (fun e : ℝ => |e| ^ (r:ℝ)) (gaussianReal 0 v) := by
  simpa using (memLp_id_gaussianReal (μ := 0) (v := v) r).integrable_norm_rpow'

theorem rpow_lipschitz_unit (p : ℝ) (hp : 1 ≤ p) (s t : ℝ) (hs : s ∈ Icc (0:ℝ) 1) (ht : t ∈ Icc (0:ℝ) 1) :
    |t ^ p - s ^ p| ≤ p * |t - s| := by
  have hd : ∀ x ∈ Icc (0:ℝ) 1, HasDerivWithinAt (fun x : ℝ => x ^ p) (p * x ^ (p - 1)) (Icc 0 1) x :=
    fun x _ => (Real.hasDerivAt_rpow_const (Or.inr hp)).hasDerivWithinAt
  have hbound : ∀ x ∈ Icc (0:ℝ) 1, ‖p * x ^ (p - 1)‖ ≤ p := by
    intro x hx
    rw [Real.norm_eq_abs, abs_of_nonneg (mul_nonneg (by linarith) (Real.rpow_nonneg hx.1 _))]
    exact mul_le_of_le_one_right (by linarith) (Real.rpow_le_one hx.1 hx.2 (by linarith))
  have := Convex.norm_image_sub_le_of_norm_hasDerivWithin_le hd hbound (convex_Icc 0 1) hs ht
  simpa [Real.norm_eq_abs] using this

variable (T : List (ℕ × List (Entry ℝ))) (ninf pinf : ℝ)

/-- the argument `(clip y − a)/(b−a)` resp. `(b − clip y)/(b−a)` of the power lies in `[0,1]` and is `1/(b−a)`-Lipschitz
in `y` -/
theorem cdf_noiseless_modulus (d : Params ℝ) (hab : d.a < d.b)
    (hp : pointMass (realFns T ninf pinf) d = false) (h : regime (realFns T ninf pinf) d = .noiseless)
    (ω : ℝ → ℝ) (hω : Monotone ω)
    (hpow : ∀ s ∈ Icc (0:ℝ) 1, ∀ t ∈ Icc (0:ℝ) 1, |t ^ ((d.c : ℝ) / 2) - s ^ ((d.c : ℝ) / 2)| ≤ ω |t - s|) (x y : ℝ) :
    |cdf (realFns T ninf pinf) d x - cdf (realFns T ninf pinf) d y| ≤ ω (|x - y| / (d.b - d.a)) := by
  have hw : 0 < d.b - d.a := sub_pos.mpr hab
  have hm : ∀ z : ℝ, (clip z d.a d.b - d.a) / (d.b - d.a) ∈ Icc (0:ℝ) 1 ∧ (d.b - clip z d.a d.b) / (d.b - d.a) ∈ Icc (0:ℝ) 1 :=
    fun z => by
      obtain ⟨c1, c2⟩ := clip_mem z d.a d.b hab.le
      exact ⟨⟨div_nonneg (by linarith) hw.le, (div_le_one hw).mpr (by linarith)⟩,
        ⟨div_nonneg (by linarith) hw.le, (div_le_one hw).mpr (by linarith)⟩⟩
  have hcl : |clip x d.a d.b - clip y d.a d.b| / (d.b - d.a) ≤ |x - y| / (d.b - d.a) :=
    div_le_div_of_nonneg_right (clip_lipschitz x y d.a d.b hab.le) hw.le
  rw [cdf_noiseless_real T ninf pinf d hp h, cdf_noiseless_real T ninf pinf d hp h]
  cases d.convex
  · simp only [Bool.false_eq_true, if_false]
    rw [sub_sub_sub_cancel_left]
    refine (hpow _ (hm x).2 _ (hm y).2).trans (hω ?_)
    rwa [← sub_div, sub_sub_sub_cancel_left, abs_div, abs_of_pos hw]
  · simp only [if_true]
    refine (hpow _ (hm y).1 _ (hm x).1).trans (hω ?_)
    rwa [← sub_div, sub_sub_sub_cancel_right, abs_div, abs_of_pos hw]

/-- **C06-T5, any modulus**: `ν` is the law of the noise, the integral the law of `Z + E` at `y`, `ω` a modulus of
continuity of `t ↦ t^{c/2}` on `[0,1]` -/
theorem noiseless_smoothing_le (d : Params ℝ) (hab : d.a < d.b)
    (hp : pointMass (realFns T ninf pinf) d = false) (h : regime (realFns T ninf pinf) d = .noiseless)
    (ω : ℝ → ℝ) (hω : Monotone ω) (hωc : Continuous ω) (hω0 : ω 0 = 0)
    (hpow : ∀ s ∈ Icc (0:ℝ) 1, ∀ t ∈ Icc (0:ℝ) 1, |t ^ ((d.c : ℝ) / 2) - s ^ ((d.c : ℝ) / 2)| ≤ ω |t - s|)
    (ν : Measure ℝ) [IsProbabilityMeasure ν] (hint : Integrable (fun e : ℝ => ω (|e| / (d.b - d.a))) ν) (y : ℝ) :
    |cdf (realFns T ninf pinf) d y - ∫ e, cdf (realFns T ninf pinf) d (y - e) ∂ν|
      ≤ ∫ e, ω (|e| / (d.b - d.a)) ∂ν :=
  smoothing_modulus ν _ (fun r => ω (r / (d.b - d.a))) (cdf_noiseless_modulus T ninf pinf d hab hp h ω hω hpow)
    (by fun_prop) (by simp [hω0]) hint y

/-- `E|E| = √(2o²/π) ≤ 0.8 o` for `E ~ N(0, o²)` -/
theorem integral_abs_gaussianReal_le (o : ℝ) (ho : 0 < o) :
    ∫ e, |e| ∂(gaussianReal 0 ⟨o ^ 2, sq_nonneg _⟩) ≤ 0.8 * o := by
  have hE := integral_abs_rpow_gaussianReal _ (sq_nnreal_ne_zero ho) 1 (by norm_num)
  simp only [Real.rpow_one] at hE
  rw [hE, show ((1:ℝ) + 1) / 2 = 1 by norm_num, Real.Gamma_one, mul_one, ← Real.sqrt_eq_rpow,
    ← Real.sqrt_div' _ Real.pi_pos.le]
  refine Real.sqrt_le_iff.mpr ⟨mul_nonneg (by norm_num) ho.le, (div_le_iff₀ Real.pi_pos).mpr ?_⟩
  show 2 * o ^ 2 ≤ (0.8 * o) ^ 2 * π
  linarith only [mul_le_mul_of_nonneg_left Real.pi_gt_d2.le (sq_nonneg o), sq_nonneg o]

/-- **C06-T5 (`c ≥ 2`)**: in the noiseless regime the value the model returns (the noise-free law) differs
from its convolution with `N(0, o²)` — the law of `Z + E` — by at most `0.4 · c · o / (b − a)`. -/
theorem noiseless_bound (d : Params ℝ) (hab : d.a < d.b) (hc : 2 ≤ d.c) (ho : 0 < d.o)
    (hp : pointMass (realFns T ninf pinf) d = false) (h : regime (realFns T ninf pinf) d = .noiseless) (y : ℝ) :
    |cdf (realFns T ninf pinf) d y
        - ∫ e, cdf (realFns T ninf pinf) d (y - e) ∂(gaussianReal 0 ⟨d.o ^ 2, sq_nonneg _⟩)|
      ≤ 0.4 * d.c * d.o / (d.b - d.a) := by
  have hw : 0 < d.b - d.a := sub_pos.mpr hab
  have h2 : (1:ℝ) ≤ (d.c : ℝ) / 2 := (one_le_div two_pos).mpr (by exact_mod_cast hc)
  have hc0 : (0:ℝ) ≤ (d.c : ℝ) / 2 := zero_le_one.trans h2
  have hE := integral_abs_gaussianReal_le d.o ho
  set v : ℝ≥0 := ⟨d.o ^ 2, sq_nonneg _⟩
  have hint : Integrable (fun e : ℝ => |e|) (gaussianReal 0 v) := by simpa using integrable_abs_rpow_gaussianReal v 1
  -- `t ↦ t^{c/2}` is `c/2`-Lipschitz on `[0,1]`
  refine (noiseless_smoothing_le T ninf pinf d hab hp h (fun r => (d.c : ℝ) / 2 * r)
    (fun _ _ hr => mul_le_mul_of_nonneg_left hr hc0) (continuous_const.mul continuous_id) (mul_zero _)
    (fun s hs t ht => rpow_lipschitz_unit _ h2 s t hs ht) (gaussianReal 0 v)
    ((hint.div_const _).const_mul _) y).trans ?_
  rw [integral_const_mul, integral_div]
  calc (d.c : ℝ) / 2 * ((∫ e, |e| ∂(gaussianReal 0 v)) / (d.b - d.a))
      ≤ (d.c : ℝ) / 2 * (0.8 * d.o / (d.b - d.a)) :=
        mul_le_mul_of_nonneg_left (div_le_div_of_nonneg_right hE hw.le) hc0
    _ = 0.4 * d.c * d.o / (d.b - d.a) := by ring

theorem abs_sqrt_sub_sqrt_le (u v : ℝ) (hu : 0 ≤ u) (hv : 0 ≤ v) : |√u - √v| ≤ √|u - v| := by
  have key : ∀ s t : ℝ, 0 ≤ s → s ≤ t → √t - √s ≤ √(t - s) := by
    intro s t hs hst
    -- `(√s + √(t−s))² = t + 2√s√(t−s) ≥ t`
    refine sub_le_iff_le_add'.mpr ((Real.sqrt_le_left (add_nonneg (Real.sqrt_nonneg _) (Real.sqrt_nonneg _))).mpr ?_)
    rw [add_sq, Real.sq_sqrt hs, Real.sq_sqrt (sub_nonneg.mpr hst)]
    linarith only [mul_nonneg (mul_nonneg zero_le_two (Real.sqrt_nonneg s)) (Real.sqrt_nonneg (t - s))]
  rcases le_total v u with h | h
  · rw [abs_of_nonneg (sub_nonneg.mpr (Real.sqrt_le_sqrt h)), abs_of_nonneg (sub_nonneg.mpr h)]
    exact key v u hv h
  · rw [abs_sub_comm, abs_of_nonneg (sub_nonneg.mpr (Real.sqrt_le_sqrt h)), abs_sub_comm,
      abs_of_nonneg (sub_nonneg.mpr h)]
    exact key u v hu h

theorem Gamma_add_four {x : ℝ} (hx : 0 < x) :
    Real.Gamma (x + 4) = (x + 3) * (x + 2) * (x + 1) * x * Real.Gamma x := by
  rw [show x + 4 = x + 3 + 1 by ring, Real.Gamma_add_one (by positivity), show x + 3 = x + 2 + 1 by ring,
    Real.Gamma_add_one (by positivity), show x + 2 = x + 1 + 1 by ring, Real.Gamma_add_one (by positivity),
    Real.Gamma_add_one hx.ne']
  ring

/-- `Γ(19/4) = (15/4)(11/4)(7/4)(3/4) Γ(3/4)` -/
theorem Gamma_nineteen_quarters : Real.Gamma (19 / 4) = 3465 / 256 * Real.Gamma (3 / 4) := by
  rw [show (19 / 4 : ℝ) = 3 / 4 + 4 by norm_num, Gamma_add_four (by norm_num)]
  ring

/-- `Γ(9/2) = (7/2)(5/2)(3/2)(1/2) √π` -/
theorem Gamma_nine_halves : Real.Gamma (9 / 2) = 105 / 16 * √π := by
  rw [show (9 / 2 : ℝ) = 1 / 2 + 4 by norm_num, Gamma_add_four (by norm_num), Real.Gamma_one_half_eq]
  ring

/-- log-convexity of `Γ` at the midpoint `19/4` of `9/2` and `5`, fourth power:
`Γ(3/4)⁴ ≤ (256/3465)⁴ · (24 · 105/16)² · π` (so `Γ(3/4) ≤ 1.2345`; the true value is `1.22541…`) -/
theorem Gamma_three_quarters_pow_four_le :
    Real.Gamma (3 / 4) ^ 4 ≤ (256 / 3465) ^ 4 * (24 * (105 / 16)) ^ 2 * π := by
  have h := Real.Gamma_mul_add_mul_le_rpow_Gamma_mul_rpow_Gamma (s := 9 / 2) (t := 5) (a := 1 / 2) (b := 1 / 2)
    (by norm_num) (by norm_num) (by norm_num) (by norm_num) (by norm_num)
  rw [show (1 / 2 : ℝ) * (9 / 2) + 1 / 2 * 5 = 19 / 4 by norm_num, Gamma_nineteen_quarters, Gamma_nine_halves,
    show Real.Gamma 5 = 24 by simp [Nat.factorial], ← Real.sqrt_eq_rpow, ← Real.sqrt_eq_rpow] at h
  have hG : 0 < Real.Gamma (3 / 4) := Real.Gamma_pos_of_pos (by norm_num)
  have hpi : 0 < π := Real.pi_pos
  have hsp : 0 ≤ √π := Real.sqrt_nonneg _
  -- square twice
  have h2 : (3465 / 256 * Real.Gamma (3 / 4)) ^ 2 ≤ 105 / 16 * √π * 24 := by
    have h0 : 0 ≤ 3465 / 256 * Real.Gamma (3 / 4) := by positivity
    have := pow_le_pow_left₀ h0 h 2
    have e : (√(105 / 16 * √π) * √24) ^ 2 = 105 / 16 * √π * 24 := by
      rw [mul_pow, Real.sq_sqrt (by positivity), Real.sq_sqrt (by norm_num)]
    rwa [e] at this
  have h4 : ((3465 / 256 * Real.Gamma (3 / 4)) ^ 2) ^ 2 ≤ (105 / 16 * √π * 24) ^ 2 :=
    pow_le_pow_left₀ (by positivity) h2 2
  have hs : (105 / 16 * √π * 24) ^ 2 = (24 * (105 / 16)) ^ 2 * π := by
    rw [show (105 / 16 * √π * 24) ^ 2 = (24 * (105 / 16)) ^ 2 * (√π) ^ 2 by ring, Real.sq_sqrt hpi.le]
  rw [hs] at h4
  have : Real.Gamma (3 / 4) ^ 4 = (256 / 3465) ^ 4 * ((3465 / 256 * Real.Gamma (3 / 4)) ^ 2) ^ 2 := by
    ring
  rw [this, mul_assoc]
  exact mul_le_mul_of_nonneg_left h4 (by positivity)

/-- `K⁴ = 2 Γ(3/4)⁴ / π² ≤ 0.83⁴` -/
theorem two_mul_Gamma_pow_four_le : 2 * Real.Gamma (3 / 4) ^ 4 ≤ 0.83 ^ 4 * π ^ 2 := by
  have hpi0 : 0 < π := Real.pi_pos
  calc 2 * Real.Gamma (3 / 4) ^ 4 ≤ 2 * ((256 / 3465) ^ 4 * (24 * (105 / 16)) ^ 2) * π := by
        linarith only [Gamma_three_quarters_pow_four_le]
    _ ≤ 0.83 ^ 4 * 3.14 * π := mul_le_mul_of_nonneg_right (by norm_num) hpi0.le
    _ ≤ 0.83 ^ 4 * π ^ 2 := by
        rw [mul_assoc, sq]
        exact mul_le_mul_of_nonneg_left (mul_le_mul_of_nonneg_right Real.pi_gt_d2.le hpi0.le) (by positivity)

theorem integral_sqrt_abs_gaussianReal (v : ℝ≥0) (hv : v ≠ 0) :
    ∫ e, √|e| ∂(gaussianReal 0 v) = (2 * (v:ℝ)) ^ (1 / 4 : ℝ) * Real.Gamma (3 / 4) / √π := by
  have := integral_abs_rpow_gaussianReal v hv (1 / 2) (by norm_num)
  simp only [← Real.sqrt_eq_rpow] at this
  rw [this]; norm_num

/-- `E √|E| ≤ 0.83 √o` for `E ~ N(0, o²)` (the exact constant is `2^{1/4} Γ(3/4)/√π = 0.82218…`) -/
theorem integral_sqrt_abs_gaussianReal_le (o : ℝ) (ho : 0 < o) :
    ∫ e, √|e| ∂(gaussianReal 0 ⟨o ^ 2, sq_nonneg _⟩) ≤ 0.83 * √o := by
  set v : ℝ≥0 := ⟨o ^ 2, sq_nonneg _⟩ with hvdef
  have hvo : ((v : ℝ≥0) : ℝ) = o ^ 2 := rfl
  rw [integral_sqrt_abs_gaussianReal v (sq_nnreal_ne_zero ho), hvo]
  have hpi : (0:ℝ) < π := Real.pi_pos
  have hsp : 0 < √π := Real.sqrt_pos.mpr hpi
  have hG : 0 < Real.Gamma (3 / 4) := Real.Gamma_pos_of_pos (by norm_num)
  have hw : (0:ℝ) ≤ 2 * o ^ 2 := by positivity
  have hso : 0 ≤ √o := Real.sqrt_nonneg _
  apply le_of_pow_le_pow_left₀ (n := 4) (by norm_num) (by positivity)
  have p1 : ((2 * o ^ 2) ^ (1 / 4 : ℝ)) ^ 4 = 2 * o ^ 2 := by
    rw [← Real.rpow_natCast, ← Real.rpow_mul hw]; norm_num
  have p2 : ∀ x : ℝ, 0 ≤ x → (√x) ^ 4 = x ^ 2 := fun x hx => by
    rw [show 4 = 2 * 2 from rfl, pow_mul, Real.sq_sqrt hx]
  rw [div_pow, mul_pow, p1, p2 π hpi.le, mul_pow, p2 o ho.le, div_le_iff₀ (by positivity)]
  linarith only [mul_le_mul_of_nonneg_left two_mul_Gamma_pow_four_le (sq_nonneg o)]

/-- `c = 1`: the value the model returns differs from its convolution with `N(0, o²)` by at most `E√|E| / √(b − a)`, the
noise-free law being Hölder-½ with constant `1/√(b − a)` on the whole line (both shapes) -/
theorem noiseless_bound_c1_moment (d : Params ℝ) (hab : d.a < d.b) (hc : d.c = 1)
    (hp : pointMass (realFns T ninf pinf) d = false) (h : regime (realFns T ninf pinf) d = .noiseless) (y : ℝ) :
    |cdf (realFns T ninf pinf) d y
        - ∫ e, cdf (realFns T ninf pinf) d (y - e) ∂(gaussianReal 0 ⟨d.o ^ 2, sq_nonneg _⟩)|
      ≤ (∫ e, √|e| ∂(gaussianReal 0 ⟨d.o ^ 2, sq_nonneg _⟩)) / √(d.b - d.a) := by
  set v : ℝ≥0 := ⟨d.o ^ 2, sq_nonneg _⟩
  have heq : ∀ e : ℝ, √(|e| / (d.b - d.a)) = √|e| / √(d.b - d.a) := fun e => Real.sqrt_div (abs_nonneg e) _
  have hint : Integrable (fun e : ℝ => √|e|) (gaussianReal 0 v) := by
    simpa [Real.sqrt_eq_rpow] using integrable_abs_rpow_gaussianReal v (1 / 2)
  have := noiseless_smoothing_le T ninf pinf d hab hp h Real.sqrt (fun _ _ => Real.sqrt_le_sqrt)
    Real.continuous_sqrt Real.sqrt_zero
    (fun s hs t ht => by
      rw [hc, Nat.cast_one, ← Real.sqrt_eq_rpow, ← Real.sqrt_eq_rpow]
      exact abs_sqrt_sub_sqrt_le t s ht.1 hs.1)
    (gaussianReal 0 v) (by simp only [heq]; exact hint.div_const _) y
  simp only [heq] at this
  rwa [integral_div] at this

/-- **C06-T5 (`c = 1`)**: in the noiseless regime the value the model returns (the noise-free law) differs from its
convolution with `N(0, o²)` by at most `0.83 · √(o / (b − a))`. -/
theorem noiseless_bound_c1 (d : Params ℝ) (hab : d.a < d.b) (hc : d.c = 1) (ho : 0 < d.o)
    (hp : pointMass (realFns T ninf pinf) d = false) (h : regime (realFns T ninf pinf) d = .noiseless) (y : ℝ) :
    |cdf (realFns T ninf pinf) d y
        - ∫ e, cdf (realFns T ninf pinf) d (y - e) ∂(gaussianReal 0 ⟨d.o ^ 2, sq_nonneg _⟩)|
      ≤ 0.83 * √(d.o / (d.b - d.a)) := by
  have hw : 0 < d.b - d.a := sub_pos.mpr hab
  refine (noiseless_bound_c1_moment T ninf pinf d hab hc hp h y).trans ?_
  rw [Real.sqrt_div ho.le, ← mul_div_assoc]
  exact div_le_div_of_nonneg_right (integral_sqrt_abs_gaussianReal_le d.o ho) (Real.sqrt_nonneg _)

end Opda.Noisy

import OpdaModel.Drv.Emp
import OpdaProofs.EmpAvg
import OpdaProofs.BandMore
import OpdaProofs.ExtInst
/-!
C04: the terms the driver evaluates for the `avg` and `v` ops (`OpdaModel/Drv/Emp.lean`), tied to the sums the
theorems of `EmpAvg.lean` are about.  Padding atoms (zero weight at −∞, a, b, +∞) carry best-of-n weight exactly 0 and are
dropped by the driver's filter.  `Ext.fin` is strictly increasing, so atoms / levels / weights of a finite sample are
those of its rational values.  The driver's extended-value sum `wsum` is a function of three sums `phiSum` — the finite
part, the weight carried by `+∞` and the weight carried by `−∞` — *provided all weights are non-negative*; of
finitely-valued pairs it is `Ext.fin` of the plain sum.
-/
namespace Opda.Emp
open Opda.Wire Opda.Drv.Emp

section filter
variable {E α : Type} [Field α] [LinearOrder α]

theorem nonNeg_filter (P : E × α → Bool) (l : List (E × α)) (h : NonNeg l) : NonNeg (l.filter P) :=
  fun p hp => h p (List.mem_of_mem_filter hp)

theorem filter_mapObs {E' : Type} (ι : E → E') (l : List (E × α)) :
    (mapObs ι l).filter (fun p => p.2 ≠ 0) = mapObs ι (l.filter fun p => p.2 ≠ 0) := by
  simp [mapObs, List.filter_map, Function.comp_def]

variable [IsStrictOrderedRing α]

theorem phiSum_filter_ne_zero (φ : E → α) (l : List (E × α)) :
    phiSum φ (l.filter fun p => p.2 ≠ 0) = phiSum φ l :=
  phiSum_filter φ _ l fun p _ hp => by simpa using hp

end filter

section
variable {E α : Type} [LinearOrder E] [Field α] [LinearOrder α]

theorem filter_levelWeights_insertAtom_zero (pw : α → α) (tot : α) (v : E) (acc : α) (l : List (E × α)) :
    (levelWeights pw tot acc (insertAtom v 0 l)).filter (fun p => p.2 ≠ 0)
      = (levelWeights pw tot acc l).filter fun p => p.2 ≠ 0 := by
  -- a zero-weight atom has level weight `pw F − pw F = 0` and leaves the later levels where they were
  have hz : ∀ acc (tl : List (E × α)), (levelWeights pw tot acc ((v, 0) :: tl)).filter (fun p => p.2 ≠ 0)
      = (levelWeights pw tot acc tl).filter fun p => p.2 ≠ 0 := fun acc tl => by
    simp only [levelWeights, add_zero, sub_self, List.filter_cons, ne_eq, not_true_eq_false, decide_false,
      Bool.false_eq_true, if_false]
  induction l generalizing acc with
  | nil => exact hz acc []
  | cons hd tl ih =>
    obtain ⟨u, x⟩ := hd
    rcases insertAtom_cases v (0 : α) u x tl with ⟨_, he⟩ | ⟨_, he⟩ | ⟨_, he⟩ <;> rw [he]
    · exact hz acc _
    · rw [add_zero]
    · rw [levelWeights, levelWeights, List.filter_cons, List.filter_cons, ih]

end


section generic
variable {E α : Type} [LinearOrder E] [Field α] [LinearOrder α] [IsStrictOrderedRing α]

theorem filter_bestWeights_support [OrderBot E] [OrderTop E] (pw : α → α) (mn : Bool) (a b : E)
    (obs : List (E × α)) :
    (bestWeights pw mn (withPrev (cumN (support ⊥ ⊤ a b obs)))).filter (fun p => p.2 ≠ 0)
      = (bestWeights pw mn (withPrev (cumN (atoms obs)))).filter fun p => p.2 ≠ 0 := by
  -- each of the four padding atoms leaves the total and, after the filter, the level weights as they were
  simp only [support, bestWeights_cumN, total_insertAtom, zero_add, filter_levelWeights_insertAtom_zero]

variable {E' : Type}

theorem bestWeights_mapObs (ι : E → E') (pw : α → α) (mn : Bool) (l : List (E × α)) :
    bestWeights pw mn (withPrev (cumN (mapObs ι l))) = mapObs ι (bestWeights pw mn (withPrev (cumN l))) := by
  rw [bestWeights_cumN, bestWeights_cumN, total_mapObs, levelWeights_mapObs]

end generic

def phiFin : Ext → ℚ
  | .fin v => v
  | _ => 0

def phiPos : Ext → ℚ
  | .posInf => 1
  | _ => 0

def phiNeg : Ext → ℚ
  | .negInf => 1
  | _ => 0

theorem phiPos_eq (v : Ext) : phiPos v = if v = .posInf then 1 else 0 := by cases v <;> rfl

theorem phiNeg_eq (v : Ext) : phiNeg v = if v = .negInf then 1 else 0 := by cases v <;> rfl

theorem wsum_fold_eq (l : List (Ext × ℚ)) (acc : ℚ) :
    l.foldl (fun acc p => match p.1 with | .fin v => acc + v * p.2 | _ => acc) acc = acc + phiSum phiFin l := by
  induction l generalizing acc with
  | nil => exact (add_zero acc).symm
  | cons hd tl ih =>
    obtain ⟨v, w⟩ := hd
    rw [List.foldl_cons, ih, phiSum_cons]
    cases v <;> simp only [phiFin, zero_mul, zero_add, add_assoc]

/-- with non-negative weights the driver's flag "`e` carries positive weight or `e'` negative weight" says that the
weight at `e` is positive -/
theorem wsum_flag_iff (e e' : Ext) (l : List (Ext × ℚ)) (hn : NonNeg l) :
    (l.any fun p => (p.1 == e && decide (0 < p.2)) || (p.1 == e' && decide (p.2 < 0))) = true
      ↔ 0 < phiSum (fun v => if v = e then (1 : ℚ) else 0) l := by
  rw [phiSum_pos_iff (fun v => by split_ifs <;> norm_num) hn, List.any_eq_true]
  refine exists_congr fun p => and_congr_right fun hp => ?_
  have : ¬ p.2 < 0 := not_lt.mpr (hn p hp)
  by_cases h : p.1 = e <;> simp [h, this]

theorem wsum_of_nonneg (l : List (Ext × ℚ)) (hn : NonNeg l) :
    wsum l = if 0 < phiSum phiPos l ∧ 0 < phiSum phiNeg l then none
      else if 0 < phiSum phiPos l then some .posInf
      else if 0 < phiSum phiNeg l then some .negInf
      else some (.fin (phiSum phiFin l)) := by
  have hf := wsum_fold_eq l 0
  rw [zero_add] at hf
  have hp := wsum_flag_iff .posInf .negInf l hn
  have hm := wsum_flag_iff .negInf .posInf l hn
  rw [← funext phiPos_eq] at hp
  rw [← funext phiNeg_eq] at hm
  unfold wsum
  simp only [Bool.and_eq_true, hp, hm]
  split_ifs <;> first | rfl | exact congrArg (fun t => some (Ext.fin t)) hf

theorem wsum_fin (l : List (ℚ × ℚ)) : wsum (mapObs Ext.fin l) = some (Ext.fin (avgSum l)) := by
  have hf := wsum_fold_eq (mapObs Ext.fin l) 0
  rw [zero_add, phiSum_mapObs] at hf
  have hpos : ((mapObs Ext.fin l).any fun p => (p.1 == .posInf && decide (0 < p.2)) || (p.1 == .negInf && decide (p.2 < 0)))
      = false := by
    simp [mapObs]
  have hneg : ((mapObs Ext.fin l).any fun p => (p.1 == .negInf && decide (0 < p.2)) || (p.1 == .posInf && decide (p.2 < 0)))
      = false := by
    simp [mapObs]
  unfold wsum
  simp only [hpos, hneg, Bool.false_and, Bool.false_eq_true, if_false]
  exact congrArg (fun t => some (Ext.fin t)) hf

/-- **what the driver's `avg` op returns** for a finitely-valued sample `obs` (weights as sent, bounds arbitrary): the
quantity the C04 theorems are about. -/
theorem avg_driver (pw : ℚ → ℚ) (mn : Bool) (a b : Ext) (obs : List (ℚ × ℚ)) :
    wsum ((bestWeights pw mn (withPrev (cumN (support Ext.negInf Ext.posInf a b (mapObs Ext.fin obs))))).filter
        fun p => p.2 ≠ 0)
      = some (Ext.fin (avgSum (bestWeights pw mn (withPrev (cumN (atoms obs)))))) := by
  rw [← Ext.bot_eq, ← Ext.top_eq, filter_bestWeights_support, atoms_mapObs Ext.fin Ext.fin_strictMono,
    bestWeights_mapObs, filter_mapObs, wsum_fin, avgSum_eq_phiSum, phiSum_filter_ne_zero]
  rfl

/-- **what the driver's `v` op returns** for a finite sample. -/
theorem v_driver (ws : List ℚ) (rev : Bool) (ys : List ℚ) :
    wsum (((if rev then (Opda.Band.sort (ys.map Ext.fin)).reverse else Opda.Band.sort (ys.map Ext.fin)).zip ws).filter
        fun p => p.2 ≠ 0)
      = some (Ext.fin (avgSum ((if rev then (Opda.Band.sort ys).reverse else Opda.Band.sort ys).zip ws))) := by
  have hs : Opda.Band.sort (ys.map Ext.fin) = (Opda.Band.sort ys).map Ext.fin :=
    Opda.Band.sort_map Ext.fin Ext.fin_strictMono ys
  have key : ∀ s : List ℚ, wsum (((s.map Ext.fin).zip ws).filter fun p => p.2 ≠ 0)
      = some (Ext.fin (avgSum (s.zip ws))) := by
    intro s
    have hz : (s.map Ext.fin).zip ws = mapObs Ext.fin (s.zip ws) := by simp [mapObs, List.zip_map_left]
    rw [hz, filter_mapObs, wsum_fin]
    exact congrArg (fun t => some (Ext.fin t)) (phiSum_filter_ne_zero id (s.zip ws))
  cases rev
  · simp only [Bool.false_eq_true, if_false, hs]; exact key _
  · simp only [if_true, hs, ← List.map_reverse]; exact key _

end Opda.Emp

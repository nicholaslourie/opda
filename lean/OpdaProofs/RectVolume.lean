import OpdaProofs.RectProb
import Mathlib.MeasureTheory.Constructions.Pi
import Mathlib.MeasureTheory.Measure.Lebesgue.Basic
import Mathlib.Data.Rat.Cast.Order
import Mathlib.Data.Fin.Tuple.Sort
import Mathlib.Order.Interval.Finset.Fin
import Mathlib.Tactic

/-!
# `Opda.RectProb.coverage` is the probability of the rectangle event for uniform order statistics (C01)

The break points `points α β` are strictly increasing, start at `0`, contain `1` and every level in `[0,1]`; the cells
`cell k = (q₍ₖ₋₁₎, qₖ]` between consecutive break points cover `(0,1]`, and a point of cell `m` is `≤ qₖ` iff `m ≤ k`.  The
product measure of an event decided by the cell each coordinate falls in is a sum over the assignments of coordinates to
cells (`pi_eq_sum_cells`, for any finite measurable partition: used here for the cells and in `OrderStatBeta.lean` for the
two half-lines at `t`); with `coverage_eq_sum_points` the rectangle event in count form (`Ev`; `EvLe` with `≤`-counts only)
has probability `coverage α β` under `unifPi n`, the law of `n` independent uniforms.  Count form ⇔ order-statistic form then
gives `unifPi_rect`: `P[αᵢ ≤ U₍ᵢ₎ ≤ βᵢ ∀ i] = coverage α β`.
-/
namespace Opda.RectProbP
open Finset Opda.RectProb MeasureTheory Set

theorem mem_insertPt (x y : ℚ) : ∀ l : List ℚ, y ∈ insertPt x l ↔ y = x ∨ y ∈ l
  | [] => by simp [insertPt]
  | z :: zs => by
    unfold insertPt
    split_ifs with h1 h2
    · exact List.mem_cons
    · rw [h2, List.mem_cons, ← or_assoc, or_self]
    · rw [List.mem_cons, mem_insertPt x y zs, List.mem_cons, or_left_comm]

theorem pairwise_insertPt (x : ℚ) : ∀ l : List ℚ, l.Pairwise (· < ·) → (insertPt x l).Pairwise (· < ·)
  | [], _ => List.pairwise_singleton _ _
  | z :: zs, h => by
    obtain ⟨hz, hzs⟩ := List.pairwise_cons.1 h
    unfold insertPt
    split_ifs with h1 h2
    · exact List.pairwise_cons.2
        ⟨fun w hw => (List.mem_cons.1 hw).elim (fun e => e ▸ h1) fun hw => h1.trans (hz w hw), h⟩
    · exact h
    · exact List.pairwise_cons.2 ⟨fun w hw => ((mem_insertPt x w zs).1 hw).elim
        (fun e => e ▸ lt_of_le_of_ne (not_lt.1 h1) (Ne.symm h2)) (hz w), pairwise_insertPt x zs hzs⟩

theorem mem_foldr_insertPt (y : ℚ) (s : List ℚ) : ∀ L : List ℚ, y ∈ L.foldr insertPt s ↔ y ∈ s ∨ y ∈ L
  | [] => by rw [List.foldr_nil, List.mem_nil_iff, or_false]
  | x :: xs => by rw [List.foldr_cons, mem_insertPt, mem_foldr_insertPt y s xs, List.mem_cons, or_left_comm]

theorem pairwise_foldr_insertPt {s : List ℚ} (hs : s.Pairwise (· < ·)) :
    ∀ L : List ℚ, (L.foldr insertPt s).Pairwise (· < ·)
  | [] => hs
  | x :: xs => pairwise_insertPt x _ (pairwise_foldr_insertPt hs xs)

theorem mem_points (alpha beta : List ℚ) (y : ℚ) :
    y ∈ points alpha beta ↔ y = 0 ∨ y = 1 ∨ (y ∈ alpha ++ beta ∧ 0 < y ∧ y < 1) := by
  unfold points
  rw [List.mem_cons, mem_foldr_insertPt, List.mem_singleton, List.mem_filter]
  simp only [Bool.and_eq_true, decide_eq_true_eq]

theorem points_pairwise (alpha beta : List ℚ) : (points alpha beta).Pairwise (· < ·) := by
  unfold points
  refine List.pairwise_cons.mpr ⟨?_, pairwise_foldr_insertPt (List.pairwise_singleton _ _) _⟩
  intro y hy
  rcases (mem_foldr_insertPt y _ _).mp hy with hy | hy
  · exact List.mem_singleton.1 hy ▸ zero_lt_one
  · have := (List.mem_filter.mp hy).2
    simp only [Bool.and_eq_true, decide_eq_true_eq] at this
    exact this.1

theorem points_range (alpha beta : List ℚ) (y : ℚ) (hy : y ∈ points alpha beta) : 0 ≤ y ∧ y ≤ 1 := by
  rcases (mem_points alpha beta y).mp hy with rfl | rfl | ⟨_, h0, h1⟩
  · exact ⟨le_rfl, zero_le_one⟩
  · exact ⟨zero_le_one, le_rfl⟩
  · exact ⟨h0.le, h1.le⟩

theorem mem_points_of_mem (alpha beta : List ℚ) (y : ℚ) (hy : y ∈ alpha ++ beta) (h0 : 0 ≤ y) (h1 : y ≤ 1) :
    y ∈ points alpha beta :=
  (mem_points alpha beta y).2 <| h0.eq_or_lt.imp Eq.symm fun h => h1.eq_or_lt.imp_right fun h' => ⟨hy, h, h'⟩

section cellsR
variable (alpha beta : List ℚ)

def q (k : Fin (points alpha beta).length) : ℝ := (((points alpha beta).get k : ℚ) : ℝ)

def lft (k : Fin (points alpha beta).length) : ℝ := ((cellLeft (points alpha beta) k : ℚ) : ℝ)

/-- cell `k` = `(q₍ₖ₋₁₎, qₖ]` (`(0, 0] = ∅` for `k = 0`) -/
def cell (k : Fin (points alpha beta).length) : Set ℝ := Ioc (lft alpha beta k) (q alpha beta k)

theorem q_mono {k k' : Fin (points alpha beta).length} (h : k ≤ k') : q alpha beta k ≤ q alpha beta k' := by
  unfold q
  rcases eq_or_lt_of_le h with rfl | hlt
  · exact le_rfl
  · have := (List.pairwise_iff_getElem.mp (points_pairwise alpha beta)) k.val k'.val k.isLt k'.isLt hlt
    exact_mod_cast this.le

theorem q_range (k : Fin (points alpha beta).length) : 0 ≤ q alpha beta k ∧ q alpha beta k ≤ 1 := by
  have := points_range alpha beta _ (List.getElem_mem k.isLt)
  unfold q
  exact ⟨by exact_mod_cast this.1, by exact_mod_cast this.2⟩

theorem q_zero (k : Fin (points alpha beta).length) (hk : k.val = 0) : q alpha beta k = 0 := by
  obtain ⟨k, h⟩ := k
  subst hk
  exact Rat.cast_eq_zero.2 rfl  -- the first break point is `0`, by the definition of `points`

theorem lft_zero (k : Fin (points alpha beta).length) (hk : k.val = 0) : lft alpha beta k = 0 := by
  rw [lft, hk, cellLeft_zero, Rat.cast_zero]

theorem lft_succ (k : Fin (points alpha beta).length) (hk : k.val ≠ 0) :
    lft alpha beta k = q alpha beta ⟨k.val - 1, by omega⟩ := by
  rw [lft, cellLeft_of_ne_zero _ hk (by omega)]; rfl

theorem lft_eq_q (k : Fin (points alpha beta).length) : ∃ k' ≤ k, lft alpha beta k = q alpha beta k' := by
  by_cases hk : k.val = 0
  · exact ⟨k, le_rfl, by rw [lft_zero alpha beta k hk, q_zero alpha beta k hk]⟩
  · exact ⟨⟨k.val - 1, by omega⟩, Nat.sub_le _ _, lft_succ alpha beta k hk⟩

theorem lft_le_q (k : Fin (points alpha beta).length) : lft alpha beta k ≤ q alpha beta k := by
  obtain ⟨k', hk', h⟩ := lft_eq_q alpha beta k
  rw [h]; exact q_mono alpha beta hk'

theorem cell_subset (k : Fin (points alpha beta).length) : cell alpha beta k ⊆ Ioc 0 1 := by
  obtain ⟨k', _, h⟩ := lft_eq_q alpha beta k
  exact fun t ht => ⟨(h ▸ (q_range alpha beta k').1).trans_lt ht.1, ht.2.trans (q_range alpha beta k).2⟩

theorem cell_le_iff {t : ℝ} {m : Fin (points alpha beta).length} (ht : t ∈ cell alpha beta m)
    (k : Fin (points alpha beta).length) : t ≤ q alpha beta k ↔ m ≤ k := by
  refine ⟨fun htk => le_of_not_gt fun hkm => ?_, fun hmk => ht.2.trans (q_mono alpha beta hmk)⟩
  have hlt := ht.1
  rw [lft_succ alpha beta m (Nat.ne_of_gt (Nat.zero_lt_of_lt hkm))] at hlt
  exact (hlt.trans_le htk).not_ge (q_mono alpha beta (show k.val ≤ m.val - 1 from Nat.le_sub_one_of_lt hkm))

/-- the cell of the first break point `≥ t` -/
theorem exists_cell {t : ℝ} (ht : t ∈ Ioc (0 : ℝ) 1) : ∃ m, t ∈ cell alpha beta m := by
  obtain ⟨i1, hi1, he1⟩ := List.getElem_of_mem ((mem_points alpha beta 1).mpr (Or.inr (Or.inl rfl)))
  have hex : ∃ k, ∃ h : k < (points alpha beta).length, t ≤ q alpha beta ⟨k, h⟩ :=
    ⟨i1, hi1, by rw [q, List.get_eq_getElem, he1, Rat.cast_one]; exact ht.2⟩
  classical
  obtain ⟨hm, htm⟩ := Nat.find_spec hex
  have hm0 : Nat.find hex ≠ 0 := fun h0 => (q_zero alpha beta ⟨_, hm⟩ h0 ▸ htm).not_gt ht.1
  refine ⟨⟨Nat.find hex, hm⟩, ?_, htm⟩
  rw [lft_succ alpha beta _ hm0]
  exact lt_of_not_ge fun hle => Nat.find_min hex (Nat.sub_lt (Nat.pos_of_ne_zero hm0) one_pos) ⟨_, hle⟩

theorem q_sub_lft (k : Fin (points alpha beta).length) :
    q alpha beta k - lft alpha beta k = ((cellLen (points alpha beta) k : ℚ) : ℝ) := (Rat.cast_sub _ _).symm

theorem cellLen_nonneg (k : Fin (points alpha beta).length) : 0 ≤ ((cellLen (points alpha beta) k : ℚ) : ℝ) := by
  rw [← q_sub_lft]; exact sub_nonneg.2 (lft_le_q alpha beta k)

end cellsR

/-- the event is a.e. the disjoint union of the boxes `∏ⱼ A (g j)` over the admissible assignments `g` of coordinates to
cells; `Measure.pi_pi` -/
theorem pi_eq_sum_cells {ι κ : Type*} [Fintype ι] [DecidableEq ι] [Fintype κ] (ν : Measure ℝ) [SigmaFinite ν]
    {A : κ → Set ℝ} (hA : ∀ k, MeasurableSet (A k)) (hd : Pairwise (Function.onFun Disjoint A))
    (hc : ∀ᵐ x ∂ν, x ∈ ⋃ k, A k) {E : Set (ι → ℝ)} {P : (ι → κ) → Prop} [DecidablePred P]
    (hE : ∀ g u, (∀ j, u j ∈ A (g j)) → (u ∈ E ↔ P g)) :
    Measure.pi (fun _ : ι => ν) E = ∑ g with P g, ∏ j, ν (A (g j)) := by
  have hae : E =ᵐ[Measure.pi fun _ : ι => ν] ⋃ g ∈ Finset.univ.filter P, Set.pi Set.univ fun j => A (g j) := by
    have hc' : ∀ᵐ u ∂Measure.pi fun _ : ι => ν, ∀ j, u j ∈ ⋃ k, A k :=
      ae_all_iff.2 fun j => (Measure.quasiMeasurePreserving_eval (fun _ : ι => ν) j).ae hc
    filter_upwards [hc'] with u hu
    choose g hg using fun j => mem_iUnion.1 (hu j)
    refine propext ⟨fun h => mem_iUnion₂.2 ⟨g, ?_, fun j _ => hg j⟩, fun h => ?_⟩
    · exact Finset.mem_filter.2 ⟨Finset.mem_univ _, (hE g u hg).1 h⟩
    · obtain ⟨g', hg', hu'⟩ := mem_iUnion₂.1 h
      exact (hE g' u fun j => hu' j trivial).2 (Finset.mem_filter.1 hg').2
  rw [measure_congr hae, measure_biUnion_finset _ fun g _ => MeasurableSet.univ_pi fun j => hA _]
  · exact Finset.sum_congr rfl fun g _ => Measure.pi_pi _ _
  · intro g _ g' _ hgg'
    obtain ⟨j, hj⟩ := Function.ne_iff.1 hgg'
    exact Set.disjoint_left.2 fun u hu hu' => (hd hj).le_bot ⟨hu j trivial, hu' j trivial⟩

section measure
variable (alpha beta : List ℚ)

/-- the rectangle event with both constraints written with `≤`-counts -/
def EvLe : Set (Fin alpha.length → ℝ) :=
  {u | (∀ i (h : i < alpha.length), #{j | u j ≤ ((alpha[i] : ℚ) : ℝ)} ≤ i)
      ∧ (∀ i (h : i < beta.length), i + 1 ≤ #{j | u j ≤ ((beta[i] : ℚ) : ℝ)})}

/-- the rectangle event `αᵢ ≤ U₍ᵢ₎ ≤ βᵢ ∀ i` in count form -/
def Ev : Set (Fin alpha.length → ℝ) :=
  {u | (∀ i (h : i < alpha.length), #{j | u j < ((alpha[i] : ℚ) : ℝ)} ≤ i)
      ∧ (∀ i (h : i < beta.length), i + 1 ≤ #{j | u j ≤ ((beta[i] : ℚ) : ℝ)})}

variable {alpha beta}

/-- with `N x` the number of sample points `≤ x` (any non-decreasing `N`): the counts are allowed at all break points
iff they satisfy the constraints at the levels (every level in `[0,1]` is a break point) -/
theorem forall_okAt_iff {N : ℚ → ℕ} (hN : Monotone N) (hα : ∀ x ∈ alpha, 0 ≤ x ∧ x ≤ 1)
    (hβ : ∀ x ∈ beta, 0 ≤ x ∧ x ≤ 1) :
    (∀ x ∈ points alpha beta, okAt alpha beta x (N x) = true)
      ↔ (∀ i (h : i < alpha.length), N alpha[i] ≤ i) ∧ (∀ i (h : i < beta.length), i + 1 ≤ N beta[i]) := by
  simp only [okAt_iff]
  constructor
  · intro h
    refine ⟨fun i hi => ?_, fun i hi => ?_⟩
    · have hm := List.getElem_mem hi
      exact (h _ (mem_points_of_mem alpha beta _ (List.mem_append_left _ hm) (hα _ hm).1 (hα _ hm).2)).2 i hi le_rfl
    · have hm := List.getElem_mem hi
      exact (h _ (mem_points_of_mem alpha beta _ (List.mem_append_right _ hm) (hβ _ hm).1 (hβ _ hm).2)).1 i hi le_rfl
  · rintro ⟨hA, hB⟩ x _
    exact ⟨fun i hi hle => (hB i hi).trans (hN hle), fun i hi hle => (hN hle).trans (hA i hi)⟩

noncomputable def unifPi (n : ℕ) : Measure (Fin n → ℝ) :=
  Measure.pi fun _ : Fin n => (volume : Measure ℝ).restrict (Icc 0 1)

/-- the uniform law on `[0,1]` is a probability measure (found by instance search wherever `ν` is instantiated with it) -/
instance unif_isProbabilityMeasure : IsProbabilityMeasure ((volume : Measure ℝ).restrict (Icc 0 1)) :=
  ⟨by rw [Measure.restrict_apply_univ, Real.volume_Icc, sub_zero, ENNReal.ofReal_one]⟩

instance unifPi_isProbabilityMeasure (n : ℕ) : IsProbabilityMeasure (unifPi n) := by unfold unifPi; infer_instance

theorem unif_cell (k : Fin (points alpha beta).length) :
    (volume.restrict (Icc (0:ℝ) 1)) (cell alpha beta k) = ENNReal.ofReal ((cellLen (points alpha beta) k : ℚ) : ℝ) := by
  have h := inter_eq_left.2 ((cell_subset alpha beta k).trans Ioc_subset_Icc_self)
  unfold cell at h ⊢
  rw [Measure.restrict_apply measurableSet_Ioc, h, Real.volume_Ioc, q_sub_lft]

/-- the cells partition `(0,1]`, a sample with `j`-th point in cell `g j` has `#{j | g j ≤ k}` points `≤ qₖ`, so the event
holds iff `g` is allowed; then `coverage_eq_sum_points` -/
theorem unifPi_evLe (hα : ∀ x ∈ alpha, 0 ≤ x ∧ x ≤ 1) (hβ : ∀ x ∈ beta, 0 ≤ x ∧ x ≤ 1) :
    unifPi alpha.length (EvLe alpha beta) = ENNReal.ofReal ((coverage alpha beta : ℚ) : ℝ) := by
  have hdisj : Pairwise (Function.onFun Disjoint (cell alpha beta)) := fun m m' h =>
    Set.disjoint_left.2 fun t ht ht' =>
      h (le_antisymm ((cell_le_iff alpha beta ht m').1 ht'.2) ((cell_le_iff alpha beta ht' m).1 ht.2))
  have hcover : ∀ᵐ t ∂(volume : Measure ℝ).restrict (Icc 0 1), t ∈ ⋃ k, cell alpha beta k := by
    rw [← Measure.restrict_congr_set Ioc_ae_eq_Icc]
    exact (ae_restrict_mem measurableSet_Ioc).mono fun t ht => mem_iUnion.2 (exists_cell alpha beta ht)
  rw [unifPi]
  refine (pi_eq_sum_cells _ (A := cell alpha beta)
    (P := fun g => ∀ k, okAt alpha beta ((points alpha beta).get k) #{j | g j ≤ k} = true)
    (fun _ => measurableSet_Ioc) hdisj hcover fun g u hu => ?_).trans ?_
  · have hcount : ∀ k, #{j | u j ≤ q alpha beta k} = #{j | g j ≤ k} := fun k =>
      congrArg Finset.card (Finset.filter_congr fun j _ => cell_le_iff alpha beta (hu j) k)
    have hN : Monotone fun x : ℚ => #{j | u j ≤ ((x : ℚ) : ℝ)} := fun x y h =>
      Finset.card_le_card fun j => by
        simp only [Finset.mem_filter, Finset.mem_univ, true_and]; exact fun hj => hj.trans (by exact_mod_cast h)
    rw [EvLe, mem_ofPred_eq, ← forall_okAt_iff hN hα hβ]
    refine ⟨fun h k => ?_, fun h x hx => ?_⟩
    · rw [← hcount k]; exact h _ (List.getElem_mem k.isLt)
    · obtain ⟨i, hi, rfl⟩ := List.getElem_of_mem hx
      have := h ⟨i, hi⟩
      rwa [← hcount ⟨i, hi⟩] at this
  · -- the sum of the box volumes is `coverage_eq_sum_points`, cast to `ℝ≥0∞`
    simp_rw [unif_cell]
    rw [coverage_eq_sum_points, Finset.sum_filter, Rat.cast_sum, ENNReal.ofReal_sum_of_nonneg]
    · refine Finset.sum_congr rfl fun g _ => ?_
      split_ifs
      · rw [Rat.cast_prod, ENNReal.ofReal_prod_of_nonneg fun j _ => cellLen_nonneg alpha beta (g j)]
      · rw [Rat.cast_zero, ENNReal.ofReal_zero]
    · intro g _
      split_ifs
      · rw [Rat.cast_prod]; exact Finset.prod_nonneg fun j _ => cellLen_nonneg alpha beta (g j)
      · rw [Rat.cast_zero]

/-- almost surely no sample point sits on a level, so `<`-counts and `≤`-counts agree -/
theorem ev_ae_eq_evLe : Ev alpha beta =ᵐ[unifPi alpha.length] EvLe alpha beta := by
  have hae : ∀ᵐ u ∂(unifPi alpha.length), ∀ (j : Fin alpha.length) (i : Fin alpha.length),
      u j ≠ ((alpha.get i : ℚ) : ℝ) :=
    ae_all_iff.2 fun j => ae_all_iff.2 fun i =>
      Measure.ae_eval_ne (fun _ : Fin alpha.length => (volume : Measure ℝ).restrict (Icc 0 1)) j _
  filter_upwards [hae] with u hu
  have hcount : ∀ i (h : i < alpha.length),
      #{j | u j < ((alpha[i] : ℚ) : ℝ)} = #{j | u j ≤ ((alpha[i] : ℚ) : ℝ)} := fun i h =>
    congrArg Finset.card (Finset.filter_congr fun j _ => ⟨le_of_lt, fun hle => lt_of_le_of_ne hle (hu j ⟨i, h⟩)⟩)
  exact propext (and_congr_left' (forall₂_congr fun i h => by rw [hcount i h]))

theorem unifPi_ev (hα : ∀ x ∈ alpha, 0 ≤ x ∧ x ≤ 1) (hβ : ∀ x ∈ beta, 0 ≤ x ∧ x ≤ 1) :
    unifPi alpha.length (Ev alpha beta) = ENNReal.ofReal ((coverage alpha beta : ℚ) : ℝ) := by
  rw [measure_congr ev_ae_eq_evLe, unifPi_evLe hα hβ]

end measure

section orderstat
variable {n : ℕ}

/-- the `i`-th (0-based) order statistic of a sample -/
noncomputable def orderStat (u : Fin n → ℝ) (i : Fin n) : ℝ := u (Tuple.sort u i)

theorem orderStat_mono (u : Fin n → ℝ) : Monotone (orderStat u) := Tuple.monotone_sort u

theorem orderStat_comp_mono {F : ℝ → ℝ} (hmono : Monotone F) (y : Fin n → ℝ) (i : Fin n) :
    orderStat (F ∘ y) i = F (orderStat y i) := by
  have hm : Monotone ((F ∘ y) ∘ Tuple.sort y) := fun a b hab => hmono (Tuple.monotone_sort y hab)
  have := (Tuple.comp_sort_eq_comp_iff_monotone (f := F ∘ y) (σ := Tuple.sort y)).mpr hm
  exact (congr_fun this i).symm

theorem count_comp_perm (u : Fin n → ℝ) (σ : Equiv.Perm (Fin n)) (p : ℝ → Prop) [DecidablePred p] :
    #{j | p (u (σ j))} = #{j | p (u j)} :=
  Finset.card_equiv σ fun i => by simp only [Finset.mem_filter, Finset.mem_univ, true_and]

/-- for a sorted sample and a property `p` of reals that is inherited downwards (`· ≤ t`, `· < t`): `p (y i)` iff more
than `i` sample points have `p` — the sample points with `p` are an initial segment -/
theorem sorted_iff_lt_card (y : Fin n → ℝ) (hy : Monotone y) (p : ℝ → Prop) [DecidablePred p]
    (hp : ∀ ⦃a b⦄, a ≤ b → p b → p a) (i : Fin n) : p (y i) ↔ i.val < #{j | p (y j)} := by
  constructor
  · intro h
    have := Finset.card_le_card (show Finset.Iic i ⊆ Finset.univ.filter fun j => p (y j) from
      fun j hj => Finset.mem_filter.2 ⟨Finset.mem_univ _, hp (hy (Finset.mem_Iic.1 hj)) h⟩)
    rwa [Fin.card_Iic] at this
  · intro h
    by_contra hn
    have := Finset.card_le_card (show (Finset.univ.filter fun j => p (y j)) ⊆ Finset.Iio i from
      fun j hj => Finset.mem_Iio.2 (lt_of_not_ge fun hij => hn (hp (hy hij) (Finset.mem_filter.1 hj).2)))
    rw [Fin.card_Iio] at this
    omega

theorem orderStat_iff_lt_card (u : Fin n → ℝ) (p : ℝ → Prop) [DecidablePred p]
    (hp : ∀ ⦃a b⦄, a ≤ b → p b → p a) (i : Fin n) : p (orderStat u i) ↔ i.val < #{j | p (u j)} :=
  (sorted_iff_lt_card _ (orderStat_mono u) p hp i).trans (by rw [← count_comp_perm u (Tuple.sort u) p]; rfl)

theorem orderStat_le_iff (u : Fin n → ℝ) (i : Fin n) (t : ℝ) :
    orderStat u i ≤ t ↔ i.val + 1 ≤ #{j | u j ≤ t} := orderStat_iff_lt_card u (· ≤ t) (fun _ _ h => h.trans) i

theorem le_orderStat_iff (u : Fin n → ℝ) (i : Fin n) (t : ℝ) :
    t ≤ orderStat u i ↔ #{j | u j < t} ≤ i.val := by
  rw [← not_lt, orderStat_iff_lt_card u (· < t) (fun _ _ h => h.trans_lt) i, not_lt]

theorem measurable_count (p : ℝ → Prop) [DecidablePred p] (hp : MeasurableSet {x | p x}) :
    Measurable (fun u : Fin n → ℝ => #{j | p (u j)}) := by
  simp_rw [Finset.card_filter]
  refine Finset.measurable_sum _ fun j _ => ?_
  exact Measurable.ite (hp.preimage (measurable_pi_apply j)) measurable_const measurable_const

theorem measurableSet_orderStat_le (k : Fin n) (t : ℝ) : MeasurableSet {u : Fin n → ℝ | orderStat u k ≤ t} := by
  simp_rw [orderStat_le_iff]
  exact measurableSet_le measurable_const
    (measurable_count (fun x => x ≤ t) (measurableSet_le measurable_id measurable_const))

theorem measurable_orderStat (k : Fin n) : Measurable fun u : Fin n → ℝ => orderStat u k :=
  measurable_of_Iic fun t => measurableSet_orderStat_le k t

theorem measurableSet_rect (a b : Fin n → ℝ) :
    MeasurableSet {u : Fin n → ℝ | ∀ i, a i ≤ orderStat u i ∧ orderStat u i ≤ b i} := by
  simp only [Set.ofPred_forall, Set.ofPred_and]
  exact MeasurableSet.iInter fun i => (measurableSet_le measurable_const (measurable_orderStat i)).inter
    (measurableSet_le (measurable_orderStat i) measurable_const)

end orderstat

theorem unifPi_rect (alpha beta : List ℚ) (hlen : beta.length = alpha.length)
    (hα : ∀ x ∈ alpha, 0 ≤ x ∧ x ≤ 1) (hβ : ∀ x ∈ beta, 0 ≤ x ∧ x ≤ 1) :
    unifPi alpha.length {u | ∀ i, ((alpha.get i : ℚ) : ℝ) ≤ orderStat u i
        ∧ orderStat u i ≤ ((beta.get (i.cast hlen.symm) : ℚ) : ℝ)}
      = ENNReal.ofReal ((coverage alpha beta : ℚ) : ℝ) := by
  rw [← unifPi_ev hα hβ]
  congr 1
  ext u
  simp only [Set.mem_ofPred_eq, Ev, le_orderStat_iff, orderStat_le_iff]
  exact ⟨fun h => ⟨fun i hi => (h ⟨i, hi⟩).1, fun i hi => (h ⟨i, hlen ▸ hi⟩).2⟩,
    fun h i => ⟨h.1 i i.isLt, h.2 i (hlen.symm ▸ i.isLt)⟩⟩

end Opda.RectProbP

import OpdaModel.EmpCurves
import OpdaProofs.EmpMore
import Mathlib.Tactic
/-!
C04: the average tuning curve of the model, `Σ_j φ(v_j) · w_j` with `(v_j, w_j) ∈ bestWeights pw minimize (withPrev (cumN supp))`
(`φ = id` for finite observations: `avgSum`).

The best-of-n weights over a support are put in one recursive form (`levelWeights`, `bestWeights_cumN`; the minimise
direction is the maximise direction of the reflected power function, `reflPw`), and what concerns a support is proved about
that form: the weights are non-negative for monotone `pw`, commute with relabelling the values, and reversing the list
gives the survival form.
With the uniqueness of sorted atom lists (relabelling by a strictly monotone map relabels, by a decreasing map reverses,
the atoms) this gives V-statistic curve = average curve for unweighted samples through any functional of the value
(`v_eq_average_phi`) and is what minimise = −maximise(−sample) rests on (`Props.C04.average_min_max_duality`).  The last
part is about the model's own form on an arbitrary level list, `bestWeights d false (withPrevAux prev l)`: the weights
telescope (`bestWeights_total`), Abel summation (`abel_bound`, `avgSum_mono_of_levels`) gives monotonicity in `n`, and the
levels of a weighted sample meet its hypotheses (`levels_mem_unit_last_eq_one`, `cumN_pairwise`).
-/
namespace Opda.Emp

section weights
variable {E α : Type} [Field α]

theorem bestWeights_false (pw : α → α) (tr : List (E × α × α)) :
    bestWeights pw false tr = tr.map fun t => (t.1, pw t.2.1 - pw t.2.2) := by
  unfold bestWeights
  apply List.map_congr_left
  rintro ⟨u, c, p⟩ _; simp

/-- the survival form `pw (1−F_{j−1}) − pw (1−F_j)` of the minimise weights is the plain form for the reflected power
function `x ↦ −pw(1−x)` -/
def reflPw (mn : Bool) (pw : α → α) : α → α := if mn then fun x => -pw (1 - x) else pw

theorem reflPw_false (pw : α → α) : reflPw false pw = pw := if_neg Bool.false_ne_true

theorem reflPw_true (pw : α → α) : reflPw true pw = fun x => -pw (1 - x) := if_pos rfl

theorem bestWeights_true_eq_false (pw : α → α) (tr : List (E × α × α)) :
    bestWeights pw true tr = bestWeights (reflPw true pw) false tr := by
  unfold bestWeights
  apply List.map_congr_left
  rintro ⟨u, c, p⟩ _
  simp only [reflPw_true, if_true, Bool.false_eq_true, if_false, neg_sub_neg]

theorem bestWeights_total (pw : α → α) (prev : α) (l : List (E × α)) :
    total (bestWeights pw false (withPrevAux prev l))
      = (match l.getLast? with | some p => pw p.2 | none => pw prev) - pw prev := by
  induction l generalizing prev with
  | nil => simp [withPrevAux, bestWeights, total]
  | cons p rest ih =>
    obtain ⟨u, c⟩ := p
    simp only [withPrevAux, bestWeights, List.map_cons, total] at ih ⊢
    rw [ih c]
    cases rest with
    | nil => simp
    | cons q rest' =>
      have hp : (q :: rest').getLast? = some ((q :: rest').getLast (by simp)) :=
        List.getLast?_eq_some_getLast (by simp)
      simp only [List.getLast?_cons_cons, hp, Bool.false_eq_true, if_false]; ring

/-- the best-of-n weights `pw F_j − pw F_{j−1}` of a list of atoms, `F_j = (acc + x_1 + … + x_j) / tot`: `acc` is the mass in
front of the list, `tot` the total mass -/
def levelWeights (pw : α → α) (tot : α) : α → List (E × α) → List (E × α)
  | _, [] => []
  | acc, (v, x) :: rest => (v, pw ((acc + x) / tot) - pw (acc / tot)) :: levelWeights pw tot (acc + x) rest

theorem bestWeights_levels (pw : α → α) (mn : Bool) (tot acc : α) (l : List (E × α)) :
    bestWeights pw mn (withPrevAux (acc / tot) ((cumAux acc l).map fun p => (p.1, p.2 / tot)))
      = levelWeights (reflPw mn pw) tot acc l := by
  have hmax : ∀ (pw : α → α) (acc : α),
      bestWeights pw false (withPrevAux (acc / tot) ((cumAux acc l).map fun p => (p.1, p.2 / tot)))
        = levelWeights pw tot acc l := fun pw acc => by
    induction l generalizing acc with
    | nil => rfl
    | cons hd tl ih =>
      have := ih (acc + hd.2)
      rw [bestWeights_false] at this ⊢
      simp only [cumAux, List.map_cons, withPrevAux, levelWeights, this]
  cases mn
  · rw [reflPw_false]; exact hmax pw acc
  · rw [bestWeights_true_eq_false]; exact hmax _ acc

theorem bestWeights_cumN (pw : α → α) (mn : Bool) (l : List (E × α)) :
    bestWeights pw mn (withPrev (cumN l)) = levelWeights (reflPw mn pw) (total l) 0 l := by
  rw [← bestWeights_levels, zero_div]; rfl

theorem levelWeights_append (pw : α → α) (tot acc : α) (L M : List (E × α)) :
    levelWeights pw tot acc (L ++ M) = levelWeights pw tot acc L ++ levelWeights pw tot (acc + total L) M := by
  induction L generalizing acc with
  | nil => simp only [List.nil_append, levelWeights, total, add_zero]
  | cons hd tl ih => simp only [List.cons_append, levelWeights, ih, total, add_assoc]

theorem levelWeights_mapObs {E' : Type} (ι : E → E') (pw : α → α) (tot acc : α) (l : List (E × α)) :
    levelWeights pw tot acc (mapObs ι l) = mapObs ι (levelWeights pw tot acc l) := by
  induction l generalizing acc with
  | nil => rfl
  | cons hd tl ih => simp only [mapObs, List.map_cons, levelWeights] at ih ⊢; rw [ih]

def vWeightAt (pw : α → α) (N i : ℕ) : α := pw (((i + 1 : ℕ) : α) / (N : α)) - pw ((i : α) / (N : α))

theorem vWeights_eq_map (pw : α → α) (N : ℕ) : vWeights pw N = (List.range N).map (vWeightAt pw N) := rfl

theorem levelWeights_unit (pw : α → α) (N k : ℕ) (s : List E) :
    levelWeights pw (N : α) (k : α) (s.map fun y => (y, (1 : α)))
      = s.zip ((List.range' k s.length).map (vWeightAt pw N)) := by
  induction s generalizing k with
  | nil => rfl
  | cons y tl ih =>
    have := ih (k + 1)
    rw [Nat.cast_succ] at this
    simp only [List.map_cons, levelWeights, this, List.length_cons, List.range'_succ, List.zip_cons_cons, vWeightAt,
      Nat.cast_succ]

theorem cumAux_keys (acc : α) (l : List (E × α)) : (cumAux acc l).map Prod.fst = l.map Prod.fst := by
  induction l generalizing acc with
  | nil => rfl
  | cons hd tl ih => obtain ⟨v, x⟩ := hd; simp [cumAux, ih]

theorem cumN_pairwise [LinearOrder E] (l : List (E × α)) (hs : Sorted l) : (cumN l).Pairwise fun p q => p.1 ≤ q.1 := by
  have h1 : ((cumN l).map Prod.fst).Pairwise (· ≤ ·) := by
    unfold cumN cum
    rw [List.map_map]
    have : (Prod.fst ∘ fun p : E × α => (p.1, p.2 / total l)) = Prod.fst := rfl
    rw [this, cumAux_keys, List.pairwise_map]
    exact hs.imp le_of_lt
  rwa [List.pairwise_map] at h1

end weights

section
variable {E α : Type} [Field α] [LinearOrder α] [IsStrictOrderedRing α]

theorem nonNeg_levelWeights (pw : α → α) (hmono : ∀ x y, 0 ≤ x → x ≤ y → y ≤ 1 → pw x ≤ pw y)
    (tot : α) (htot : 0 < tot) (acc : α) (l : List (E × α)) (hn : NonNeg l) (hacc : 0 ≤ acc)
    (hsum : acc + total l ≤ tot) : NonNeg (levelWeights pw tot acc l) := by
  induction l generalizing acc with
  | nil => exact fun p hp => absurd hp List.not_mem_nil
  | cons hd tl ih =>
    obtain ⟨u, x⟩ := hd
    obtain ⟨hx, hn'⟩ := nonNeg_cons.mp hn
    rw [total, ← add_assoc] at hsum
    have hle : acc + x ≤ tot := le_trans (le_add_of_nonneg_right (total_nonneg tl hn')) hsum
    exact nonNeg_cons.mpr ⟨sub_nonneg.mpr (hmono _ _ (div_nonneg hacc htot.le)
      (div_le_div_of_nonneg_right (le_add_of_nonneg_right hx) htot.le) ((div_le_one htot).mpr hle)),
      ih (acc + x) hn' (add_nonneg hacc hx) hsum⟩

end

section generic
variable {E α : Type} [LinearOrder E] [Field α] [LinearOrder α] [IsStrictOrderedRing α]

variable {E' : Type} [LinearOrder E']

theorem atoms_mapObs_anti (ν : E → E') (hν : StrictAnti ν) (obs : List (E × α)) :
    atoms (mapObs ν obs) = (mapObs ν (atoms obs)).reverse := by
  refine atoms_unique ?_ (fun u => ?_) fun u => ?_
  · rw [Sorted, List.pairwise_reverse]
    exact (pairwise_mapObs (fun x y => y < x) ν _).mpr ((sorted_atoms obs).imp fun h => hν h)
  · rw [List.map_reverse, List.mem_reverse, keys_mapObs, keys_mapObs, List.mem_map, List.mem_map]
    simp only [mem_keys_atoms]
  · simp only [weightEq_eq_phiSum, phiSum_reverse, phiSum_mapObs, phiSum_atoms]

theorem atoms_mapObs (ι : E → E') (hι : StrictMono ι) (obs : List (E × α)) :
    atoms (mapObs ι obs) = mapObs ι (atoms obs) := by
  refine atoms_unique ?_ (fun u => ?_) fun u => ?_
  · exact (pairwise_mapObs (· < ·) ι _).mpr ((sorted_atoms obs).imp fun h => hι h)
  · rw [keys_mapObs, keys_mapObs, List.mem_map, List.mem_map]
    simp only [mem_keys_atoms]
  · simp only [weightEq_eq_phiSum, phiSum_mapObs, phiSum_atoms]

/-- `acc'` is the mass in front of the reversed list, `acc` the mass in front of the original one; with `l` between them
they make up `tot` -/
theorem levelWeights_reverse (pw : α → α) (tot : α) (htot : tot ≠ 0) (l : List (E × α)) (acc acc' : α)
    (h : acc' + total l + acc = tot) :
    levelWeights pw tot acc' l.reverse = (levelWeights (reflPw true pw) tot acc l).reverse := by
  induction l generalizing acc with
  | nil => rfl
  | cons hd tl ih =>
    obtain ⟨u, x⟩ := hd
    simp only [total] at h
    have e1 : (acc' + total tl + x) / tot = 1 - acc / tot := by
      rw [eq_sub_iff_add_eq, ← add_div, div_eq_one_iff_eq htot, ← h]; ring
    have e2 : (acc' + total tl) / tot = 1 - (acc + x) / tot := by
      rw [eq_sub_iff_add_eq, ← add_div, div_eq_one_iff_eq htot, ← h]; ring
    rw [List.reverse_cons, levelWeights_append, ih (acc + x) (by rw [← h]; ring), total_reverse]
    simp only [levelWeights, reflPw_true, List.reverse_cons, e1, e2, neg_sub_neg]

/-- merging an observation into the head of the atom list (tied block) telescopes -/
theorem phiSum_levelWeights_insertAtom_head (φ : E → α) (pw : α → α) (tot acc : α) (v : E) (w : α)
    (l : List (E × α)) (hle : ∀ p ∈ l, v ≤ p.1) :
    phiSum φ (levelWeights pw tot acc (insertAtom v w l)) = phiSum φ (levelWeights pw tot acc ((v, w) :: l)) := by
  cases l with
  | nil => rfl
  | cons hd tl =>
    obtain ⟨u, x⟩ := hd
    rcases insertAtom_cases v w u x tl with ⟨_, he⟩ | ⟨rfl, he⟩ | ⟨h, _⟩
    · rw [he]
    · rw [he]
      have hacc : acc + (x + w) = acc + w + x := by ring
      -- the two weights of the tied block telescope: `(pw F₁ − pw F₀) + (pw F₂ − pw F₁) = pw F₂ − pw F₀`
      simp only [levelWeights, phiSum_cons, hacc]
      ring
    · exact absurd (hle (u, x) (by simp)) h.not_ge

theorem phiSum_levelWeights_atoms (φ : E → α) (pw : α → α) (tot acc : α) (obs : List (E × α))
    (hs : obs.Pairwise fun p q => p.1 ≤ q.1) :
    phiSum φ (levelWeights pw tot acc (atoms obs)) = phiSum φ (levelWeights pw tot acc obs) := by
  induction obs generalizing acc with
  | nil => rfl
  | cons o tl ih =>
    rw [List.pairwise_cons] at hs
    rw [atoms_cons, phiSum_levelWeights_insertAtom_head φ pw tot acc o.1 o.2 _ fun p hp => ?_]
    · simp only [levelWeights, phiSum_cons, ih _ hs.2]
    · obtain ⟨p', hp', he⟩ := mem_atoms hp
      exact he ▸ hs.1 p' hp'

/-- **V-statistic = average curve through any functional `φ` of the value**, for every sample `ys` (ties allowed, any
order), every sorted arrangement `s` of it and *every* function `pw` in the role of `x ↦ xⁿ`.  When minimising, the code
pairs the same weights with the sample sorted in *decreasing* order and the average curve uses the survival form. -/
theorem v_eq_average_phi (φ : E → α) (pw : α → α) (mn : Bool) (ys s : List E) (hperm : s.Perm ys)
    (hsorted : s.Pairwise (· ≤ ·)) :
    phiSum φ ((if mn then s.reverse else s).zip (vWeights pw ys.length))
      = phiSum φ (bestWeights pw mn (withPrev (cumN (atoms (ys.map fun y => (y, (1 : α))))))) := by
  rcases eq_or_ne ys [] with rfl | hne
  · rw [hperm.eq_nil]; cases mn <;> rfl
  have hN : (s.length : α) ≠ 0 := by
    rw [hperm.length_eq]; exact_mod_cast (List.length_pos_iff.mpr hne).ne'
  have hV : ∀ t : List E, t.length = s.length →
      t.zip (vWeights pw ys.length) = levelWeights pw (s.length : α) 0 (t.map fun y => (y, (1 : α))) := fun t ht => by
    rw [← Nat.cast_zero, levelWeights_unit, ht, ← hperm.length_eq, vWeights_eq_map, List.range_eq_range']
  -- the atoms of `ys` are those of its sorted arrangement `s`, and on a sorted list merging ties changes no sum
  rw [← atoms_perm (hperm.map _), bestWeights_cumN, total_atoms, total_unit,
    phiSum_levelWeights_atoms _ _ _ _ _ (List.pairwise_map.mpr hsorted)]
  -- the level weights of unit observations are the V-weights (`hV`); when minimising, read from the other end
  cases mn
  · exact congrArg _ (hV s rfl)
  · rw [if_pos rfl, hV _ s.length_reverse, List.map_reverse,
      levelWeights_reverse pw _ hN _ 0 0 (by rw [total_unit]; ring), phiSum_reverse]

end generic

section
variable {α : Type} [Field α]

def avgSum (l : List (α × α)) : α := (l.map fun p => p.1 * p.2).sum

theorem avgSum_eq_phiSum (l : List (α × α)) : avgSum l = phiSum id l := rfl

theorem avgSum_bestWeights_sub (f g : α → α) (tr : List (α × α × α)) :
    avgSum (bestWeights (fun x => f x - g x) false tr)
      = avgSum (bestWeights f false tr) - avgSum (bestWeights g false tr) := by
  simp only [bestWeights_false, avgSum]
  induction tr with
  | nil => simp
  | cons t tr ih => simp only [List.map_cons, List.sum_cons, ih]; ring

end

variable {α : Type} [Field α] [LinearOrder α] [IsStrictOrderedRing α]

abbrev negObs (obs : List (α × α)) : List (α × α) := mapObs (fun y => -y) obs

/-- Abel summation: `Σ_j v_j (d F_j − d F_{j−1}) ≤ v_last · d F_last − v_first · d F_0`. -/
theorem abel_bound (d : α → α) (l : List (α × α)) (v c prev : α)
    (hs : ((v, c) :: l).Pairwise fun p q => p.1 ≤ q.1) (hd : ∀ p ∈ (v, c) :: l, 0 ≤ d p.2) :
    avgSum (bestWeights d false (withPrevAux prev ((v, c) :: l)))
      ≤ (((v, c) :: l).getLast (by simp)).1 * d (((v, c) :: l).getLast (by simp)).2 - v * d prev := by
  induction l generalizing v c prev with
  | nil => exact le_of_eq (by simp [bestWeights_false, withPrevAux, avgSum, mul_sub])
  | cons hd' tl ih =>
    obtain ⟨v', c'⟩ := hd'
    rw [List.pairwise_cons] at hs
    -- the step from `v` to `v'` is paid for at the level `c`
    have h1 : 0 ≤ (v' - v) * d c := mul_nonneg (sub_nonneg.mpr (hs.1 (v', c') (by simp))) (hd (v, c) (by simp))
    have := ih v' c' c hs.2 (fun p hp => hd p (List.mem_cons_of_mem _ hp))
    rw [bestWeights_false] at this ⊢
    simp only [withPrevAux, List.map_cons, avgSum, List.sum_cons, List.getLast_cons_cons] at this ⊢
    linarith

theorem avgSum_mono_of_levels (pwn pwm : α → α) (l : List (α × α))
    (hs : l.Pairwise fun p q => p.1 ≤ q.1) (hd : ∀ p ∈ l, pwm p.2 ≤ pwn p.2) (h0 : pwm 0 = pwn 0)
    (hlast : ∀ p, l.getLast? = some p → pwm p.2 = pwn p.2) :
    avgSum (bestWeights pwn false (withPrev l)) ≤ avgSum (bestWeights pwm false (withPrev l)) := by
  cases l with
  | nil => simp [withPrev, withPrevAux, bestWeights, avgSum]
  | cons hd' tl =>
    obtain ⟨v, c⟩ := hd'
    have hb := abel_bound (fun x => pwn x - pwm x) tl v c 0 hs (fun p hp => sub_nonneg.mpr (hd p hp))
    have hl := hlast _ (List.getLast?_eq_some_getLast (by simp))
    rw [avgSum_bestWeights_sub] at hb
    simp only [h0, hl, sub_self, mul_zero] at hb
    unfold withPrev
    linarith

theorem levels_mem_unit_last_eq_one (acc tot : α) (htot : 0 < tot) (l : List (α × α)) (hn : NonNeg l) (hacc : 0 ≤ acc)
    (hsum : acc + total l = tot) :
    (∀ p ∈ (cumAux acc l).map (fun p => (p.1, p.2 / tot)), 0 ≤ p.2 ∧ p.2 ≤ 1)
      ∧ (∀ p, ((cumAux acc l).map (fun p => (p.1, p.2 / tot))).getLast? = some p → p.2 = 1) := by
  induction l generalizing acc with
  | nil => simp [cumAux]
  | cons hd tl ih =>
    obtain ⟨v, x⟩ := hd
    obtain ⟨hx, hn'⟩ := nonNeg_cons.mp hn
    rw [total, ← add_assoc] at hsum
    obtain ⟨ih1, ih2⟩ := ih (acc + x) hn' (add_nonneg hacc hx) hsum
    have hle : acc + x ≤ tot := hsum ▸ le_add_of_nonneg_right (total_nonneg tl hn')
    refine ⟨List.forall_mem_cons.mpr ⟨⟨div_nonneg (add_nonneg hacc hx) htot.le, (div_le_one htot).mpr hle⟩, ih1⟩,
      fun p hp => ?_⟩
    cases tl with
    | nil =>
      rw [total, add_zero] at hsum
      cases hp
      exact (congrArg (· / tot) hsum).trans (div_self htot.ne')
    | cons hd2 tl2 => exact ih2 p hp

end Opda.Emp

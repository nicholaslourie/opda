import OpdaModel.Rng
import Mathlib.Tactic

/-!
Lemmas about the state machine of `OpdaModel/Rng.lean`: the invariant of reachable states
(no returned array aliases a cache cell; deterministic cells hold their table; every memoised ld key was
logged as an ld call on a live generator object), which every step preserves, for both policies and for
every cost function.
-/
namespace Opda.Rng

section assoc
variable {κ β : Type} [DecidableEq κ]

theorem mem_of_assoc {k : κ} {v : β} {l : List (κ × β)} (h : assoc k l = some v) : (k, v) ∈ l := by
  induction l with
  | nil => simp [assoc] at h
  | cons p rest ih =>
    obtain ⟨k', v'⟩ := p
    simp only [assoc] at h
    split_ifs at h with hk
    · cases h; subst hk; exact List.mem_cons_self
    · exact List.mem_cons_of_mem _ (ih h)

theorem assoc_eq_none_of_forall {k : κ} {l : List (κ × β)} (h : ∀ v, (k, v) ∉ l) : assoc k l = none := by
  cases hh : assoc k l with
  | none => rfl
  | some v => exact absurd (mem_of_assoc hh) (h v)

theorem assoc_update_ne {k k' : κ} (v : β) (l : List (κ × β)) (h : k ≠ k') :
    assoc k (update k' v l) = assoc k l := by
  induction l with
  | nil => rfl
  | cons p rest ih =>
    obtain ⟨a, b⟩ := p
    simp only [update, assoc]
    by_cases h1 : k' = a
    · subst h1; simp only [if_true, if_neg h, ih]
    · simp only [if_neg h1, ih]

theorem assoc_cons_ne {k k' : κ} (v : β) (l : List (κ × β)) (h : k ≠ k') :
    assoc k ((k', v) :: l) = assoc k l := by
  simp only [assoc, if_neg h]

theorem assoc_cons_self (k : κ) (v : β) (l : List (κ × β)) : assoc k ((k, v) :: l) = some v := by
  simp only [assoc, if_true]

theorem key_mem_of_mem_update {k r : κ} {v g : β} {l : List (κ × β)} (h : (r, g) ∈ update k v l) :
    ∃ g', (r, g') ∈ l := by
  induction l with
  | nil => simp [update] at h
  | cons p rest ih =>
    obtain ⟨a, b⟩ := p
    simp only [update, List.mem_cons] at h
    rcases h with h | h
    · split at h <;> cases h <;> exact ⟨_, List.mem_cons_self⟩
    · exact (ih h).imp fun _ => List.mem_cons_of_mem _

theorem assoc_update_self (k : κ) (v : β) (l : List (κ × β)) :
    assoc k (update k v l) = (assoc k l).map fun _ => v := by
  induction l with
  | nil => rfl
  | cons p rest ih =>
    obtain ⟨a, b⟩ := p
    simp only [update, assoc]
    by_cases h1 : k = a
    · subst h1; simp
    · simp [h1, ih]

end assoc

theorem mem_of_nth? {β : Type} {i : Nat} {l : List β} {x : β} (h : nth? i l = some x) : x ∈ l := by
  induction l generalizing i with
  | nil => simp [nth?] at h
  | cons y rest ih =>
    cases i with
    | zero => simp only [nth?] at h; cases h; exact List.mem_cons_self
    | succ j => simp only [nth?] at h; exact List.mem_cons_of_mem _ (ih h)

/-- What each field is for: `cacheFresh` is the claim "returned arrays are copies" and lets `SameOffReturned.step`
read cache cells; `detCell` makes a dkw/ks hit return what a miss computes (`observe_spec_fresh`); `ldLogged`
turns "repeats no ld key" into "not memoised" (`ldServed_of_noRepeat`), and its `g < nextRef` says nothing is
memoised for an object yet to be created (`ldServed_after_setSeed`); the three bounds keep `nextHandle` and
`nextRef` unused, which the other fields need to survive a step. -/
structure Inv (s : State) : Prop where
  cacheFresh : ∀ k h, (k, h) ∈ s.cache → h < s.nextHandle ∧ h ∉ s.returned
  retBound : ∀ h ∈ s.returned, h < s.nextHandle
  detCell : ∀ dm n c h, (Key.det dm n c, h) ∈ s.cache → assoc h s.heap = some (.detTable dm n c)
  ldLogged : ∀ n c k g j h, (Key.ld n c k g j, h) ∈ s.cache → Key.ld n c k g j ∈ s.ldCalls ∧ g < s.nextRef
  genBound : ∀ r g, (r, g) ∈ s.gens → r < s.nextRef
  globalBound : s.global < s.nextRef

theorem Inv.of_empty {s : State} (hc : s.cache = []) (hr : s.returned = [])
    (genBound : ∀ r g, (r, g) ∈ s.gens → r < s.nextRef) (globalBound : s.global < s.nextRef) : Inv s where
  cacheFresh := fun _ _ hm => nomatch hc ▸ hm
  retBound := fun _ hm => nomatch hr ▸ hm
  detCell := fun _ _ _ _ hm => nomatch hc ▸ hm
  ldLogged := fun _ _ _ _ _ _ hm => nomatch hc ▸ hm
  genBound := genBound
  globalBound := globalBound

theorem inv_init (seed0 legacy cpu : Nat) : Inv (init seed0 legacy cpu) :=
  .of_empty rfl rfl (fun _ _ hm => by cases List.mem_singleton.mp hm; exact Nat.zero_lt_one) Nat.zero_lt_one

theorem inv_fresh {s : State} (hs : Inv s) : Inv (fresh s) :=
  .of_empty rfl rfl hs.genBound hs.globalBound

theorem Inv.ret {s : State} (hs : Inv s) (v : Value) (r : GenRef) (hit : Option Bool) (st : Option Nat) :
    Inv (ret s v r hit st).1 :=
  { hs with
    cacheFresh := fun k h hm =>
      have ⟨h1, h2⟩ := hs.cacheFresh k h hm
      ⟨Nat.lt_succ_of_lt h1, fun hr => (List.mem_cons.mp hr).elim (Nat.ne_of_lt h1) h2⟩
    retBound := fun h hm =>
      (List.mem_cons.mp hm).elim (fun e => e ▸ Nat.lt_succ_self _) fun hm => Nat.lt_succ_of_lt (hs.retBound h hm)
    detCell := fun dm n c h hm =>
      (assoc_cons_ne _ _ (Nat.ne_of_lt (hs.cacheFresh _ h hm).1)).trans (hs.detCell dm n c h hm) }

theorem Inv.memo {s : State} (hs : Inv s) (key : Key) (tbl : Value)
    (hdet : ∀ dm n c, key = .det dm n c → tbl = .detTable dm n c)
    (hld : ∀ n c k g j, key = .ld n c k g j → key ∈ s.ldCalls ∧ g < s.nextRef) :
    Inv (memo s key tbl) :=
  { hs with
    cacheFresh := by
      intro k h hm
      simp only [Rng.memo, List.mem_cons, Prod.mk.injEq] at hm
      rcases hm with ⟨_, rfl⟩ | hm
      · exact ⟨Nat.lt_succ_self _, fun hr => Nat.lt_irrefl _ (hs.retBound _ hr)⟩
      · exact ⟨Nat.lt_succ_of_lt (hs.cacheFresh k h hm).1, (hs.cacheFresh k h hm).2⟩
    retBound := fun h hm => Nat.lt_succ_of_lt (hs.retBound h hm)
    detCell := by
      intro dm n c h hm
      simp only [Rng.memo, List.mem_cons, Prod.mk.injEq] at hm
      show assoc h ((s.nextHandle, tbl) :: s.heap) = _
      rcases hm with ⟨hk, rfl⟩ | hm
      · rw [assoc_cons_self, hdet dm n c hk.symm]
      · rw [assoc_cons_ne _ _ (Nat.ne_of_lt (hs.cacheFresh _ h hm).1)]
        exact hs.detCell dm n c h hm
    ldLogged := by
      intro n c k g j h hm
      simp only [Rng.memo, List.mem_cons, Prod.mk.injEq] at hm
      rcases hm with ⟨rfl, _⟩ | hm
      · exact hld n c k g j rfl
      · exact hs.ldLogged n c k g j h hm }

theorem Inv.setGens {s : State} (hs : Inv s) (r : GenRef) (g : GenState) :
    Inv { s with gens := update r g s.gens } :=
  { hs with genBound := fun r' _ hm => (key_mem_of_mem_update hm).elim fun g' hg => hs.genBound r' g' hg }

theorem Inv.logLd {s : State} (hs : Inv s) (key : Key) : Inv { s with ldCalls := key :: s.ldCalls } :=
  { hs with ldLogged := fun n c k g j h hm => (hs.ldLogged n c k g j h hm).imp_left (List.mem_cons_of_mem _) }

theorem Inv.allocGen {s : State} (hs : Inv s) (z : Nat) (rebind : Bool) :
    Inv { s with global := if rebind then s.nextRef else s.global,
                 gens := (s.nextRef, ⟨z, 0⟩) :: s.gens, nextRef := s.nextRef + 1 } :=
  { hs with
    ldLogged := fun n c k g j h hm => (hs.ldLogged n c k g j h hm).imp_right Nat.lt_succ_of_lt
    genBound := by
      intro r g hm
      simp only [List.mem_cons, Prod.mk.injEq] at hm
      rcases hm with ⟨rfl, _⟩ | hm
      · exact Nat.lt_succ_self _
      · exact Nat.lt_succ_of_lt (hs.genBound r g hm)
    globalBound := by
      show (if rebind then s.nextRef else s.global) < s.nextRef + 1
      cases rebind
      · exact Nat.lt_succ_of_lt hs.globalBound
      · exact Nat.lt_succ_self _ }

/-- overwriting an array handed to a caller: no cache cell is such an array -/
theorem Inv.mutate {s : State} (hs : Inv s) {h' : Handle} (hm' : h' ∈ s.returned) (v : Value) :
    Inv { s with heap := update h' v s.heap } :=
  { hs with detCell := fun dm n c h hm =>
      (assoc_update_ne _ _ fun e : h = h' => (hs.cacheFresh _ h hm).2 (e ▸ hm')).trans (hs.detCell dm n c h hm) }

theorem Inv.step {s : State} (hs : Inv s) (P : Policy) (cost : Cost) (o : Op) : Inv (step P cost s o).1 := by
  cases o with
  | setSeed z => exact hs.allocGen z true
  | newGen z => exact hs.allocGen z false
  | setGlobal r =>
    simp only [Rng.step]
    cases hr : assoc r s.gens with
    | none => exact hs
    | some g => exact { hs with globalBound := hs.genBound r g (mem_of_assoc hr) }
  | sample _ _ _ gen | fit _ gen =>
    simp only [Rng.step]
    cases assoc (gen.getD s.global) s.gens with
    | none => exact hs
    | some g => exact (hs.setGens _ _).ret _ _ _ _
  | mutateReturned i v =>
    simp only [Rng.step]
    cases hi : nth? i s.returned with
    | none => exact hs
    | some h' => exact hs.mutate (mem_of_nth? hi) _
  | bands m n conf ys gen njobs =>
    cases m with
    | det dm =>
      simp only [Rng.step]
      cases assoc (gen.getD s.global) s.gens with
      | none => exact hs
      | some g =>
        cases assoc (Key.det dm n conf) s.cache with
        | some h => exact hs.ret _ _ _ _
        | none =>
          exact (hs.memo _ _ (fun _ _ _ e => by cases e; rfl) (fun _ _ _ _ _ e => by cases e)).ret _ _ _ _
    | ld kind =>
      simp only [Rng.step]
      cases hr : assoc (gen.getD s.global) s.gens with
      | none => exact hs
      | some g =>
        have hlog := hs.logLd (Key.ld n conf kind (gen.getD s.global) (njobs.getD s.cpu))
        cases (if P = Policy.asCode then
            assoc (Key.ld n conf kind (gen.getD s.global) (njobs.getD s.cpu)) s.cache else none) with
        | some h => exact hlog.ret _ _ _ _
        | none =>
          refine (Inv.memo (hlog.setGens _ _) _ _ (fun _ _ _ e => by cases e) ?_).ret _ _ _ _
          intro _ _ _ _ _ e
          cases e
          exact ⟨List.mem_cons_self, hs.genBound _ g (mem_of_assoc hr)⟩

theorem Inv.exec {s : State} (hs : Inv s) (P : Policy) (cost : Cost) (h : List Op) : Inv (exec P cost s h) := by
  induction h generalizing s with
  | nil => exact hs
  | cons o os ih => exact ih (hs.step P cost o)

theorem inv_reachable (P : Policy) (cost : Cost) (seed0 legacy cpu : Nat) (h : List Op) :
    Inv (exec P cost (init seed0 legacy cpu) h) := (inv_init seed0 legacy cpu).exec P cost h

end Opda.Rng

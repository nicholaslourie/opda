import OpdaModel.Drv.Emp
import OpdaProofs.EmpAvg
import OpdaProofs.EmpDrv
import OpdaProofs.BandMore
import OpdaProofs.ExtInst
import Mathlib.Tactic
/-!
C04: `v_tuning_curve = average_tuning_curve` for unweighted samples whose observations may be `±∞` (values in `Ext`), on
the terms the driver evaluates (`OpdaModel/Drv/Emp.lean`, ops `v` and `avg`).

The identity of the sums holds through every functional `φ` of the value (`v_eq_average_phi`, `EmpAvg.lean`): tied
observations have equal `φ`, so a tied block's V-weights telescope to the atom's best-of-n weight.  The driver's
extended-value sum `wsum` is a function of three such sums *provided all weights are non-negative* (`wsum_of_nonneg`,
`EmpDrv.lean`), which holds on both sides when `pw` is non-decreasing on `[0,1]` (true of `x ↦ xⁿ`).
For a `pw` that is not monotone the identity is false: the V-weights of a tied block at `+∞` may be `+1, −1` (reply `nan`)
while the merged atom has weight `0` (reply finite).
-/
namespace Opda.Emp
open Opda.Wire Opda.Drv.Emp

section generic
variable {E α : Type} [Field α] [LinearOrder α] [IsStrictOrderedRing α]

theorem vWeights_nonneg (pw : α → α) (hmono : ∀ x y, 0 ≤ x → x ≤ y → y ≤ 1 → pw x ≤ pw y) (N : ℕ) :
    ∀ w ∈ vWeights pw N, 0 ≤ w := by
  intro w hw
  rw [vWeights_eq_map, List.mem_map] at hw
  obtain ⟨i, hi, rfl⟩ := hw
  rw [List.mem_range] at hi
  have hNpos : (0 : α) < (N : α) := by exact_mod_cast (Nat.zero_lt_of_lt hi)
  unfold vWeightAt
  rw [sub_nonneg]
  apply hmono
  · exact div_nonneg (Nat.cast_nonneg i) hNpos.le
  · rw [div_le_div_iff_of_pos_right hNpos]; exact_mod_cast Nat.le_succ i
  · rw [div_le_one hNpos]; exact_mod_cast hi

theorem reflPw_mono (pw : α → α) (hmono : ∀ x y, 0 ≤ x → x ≤ y → y ≤ 1 → pw x ≤ pw y) (mn : Bool) :
    ∀ x y, 0 ≤ x → x ≤ y → y ≤ 1 → reflPw mn pw x ≤ reflPw mn pw y := by
  cases mn
  · rwa [reflPw_false]
  · intro x y hx hxy hy
    rw [reflPw_true]
    exact neg_le_neg (hmono _ _ (sub_nonneg.mpr hy) (sub_le_sub_left hxy 1) (sub_le_self 1 hx))

theorem bestWeights_nonneg (pw : α → α) (hmono : ∀ x y, 0 ≤ x → x ≤ y → y ≤ 1 → pw x ≤ pw y) (mn : Bool)
    (l : List (E × α)) (hn : NonNeg l) (htot : 0 < total l) :
    NonNeg (bestWeights pw mn (withPrev (cumN l))) := by
  rw [bestWeights_cumN]
  exact nonNeg_levelWeights _ (reflPw_mono pw hmono mn) _ htot 0 l hn le_rfl (zero_add _).le

end generic

section ext

theorem nonNeg_avg_terms (pw : ℚ → ℚ) (hmono : ∀ x y, 0 ≤ x → x ≤ y → y ≤ 1 → pw x ≤ pw y) (mn : Bool)
    (a b : Ext) (ys : List Ext) (hne : ys ≠ []) :
    NonNeg ((bestWeights pw mn (withPrev (cumN (support Ext.negInf Ext.posInf a b
      (ys.map fun y => (y, (1 : ℚ))))))).filter fun p => p.2 ≠ 0) := by
  rw [← Ext.bot_eq, ← Ext.top_eq, filter_bestWeights_support]
  refine nonNeg_filter _ _ (bestWeights_nonneg pw hmono mn _ (nonNeg_atoms _ fun p hp => ?_) ?_)
  · obtain ⟨y, _, rfl⟩ := List.mem_map.mp hp
    exact zero_le_one
  · rw [total_atoms, total_unit]
    exact_mod_cast List.length_pos_iff.mpr hne

/-- **`v` op = `avg` op on the driver's own terms, observations in `Ext` (`±∞` allowed)**: every non-empty unweighted
sample, any bounds, both `minimize` settings, every `pw` that is non-decreasing on `[0,1]`. -/
theorem v_driver_eq_avg_driver_ext (pw : ℚ → ℚ) (hmono : ∀ x y, 0 ≤ x → x ≤ y → y ≤ 1 → pw x ≤ pw y) (mn : Bool)
    (a b : Ext) (ys : List Ext) (hne : ys ≠ []) :
    wsum (((if mn then (Opda.Band.sort ys).reverse else Opda.Band.sort ys).zip (vWeights pw ys.length)).filter
        fun p => p.2 ≠ 0)
      = wsum ((bestWeights pw mn (withPrev (cumN (support Ext.negInf Ext.posInf a b
          (ys.map fun y => (y, (1 : ℚ))))))).filter fun p => p.2 ≠ 0) := by
  -- both replies are functions of the same three sums (`wsum_of_nonneg`), and every such sum agrees (`v_eq_average_phi`)
  have key : ∀ φ : Ext → ℚ,
      phiSum φ (((if mn then (Opda.Band.sort ys).reverse else Opda.Band.sort ys).zip (vWeights pw ys.length)).filter
          fun p => p.2 ≠ 0)
        = phiSum φ ((bestWeights pw mn (withPrev (cumN (support Ext.negInf Ext.posInf a b
            (ys.map fun y => (y, (1 : ℚ))))))).filter fun p => p.2 ≠ 0) := fun φ => by
    rw [← Ext.bot_eq, ← Ext.top_eq, filter_bestWeights_support, phiSum_filter_ne_zero, phiSum_filter_ne_zero]
    exact v_eq_average_phi φ pw mn ys _ (Opda.Band.sort_perm_self ys) (Opda.Band.pairwise_sort ys)
  rw [wsum_of_nonneg _ (nonNeg_filter _ _ fun p hp => vWeights_nonneg pw hmono ys.length p.2 (List.of_mem_zip hp).2),
    wsum_of_nonneg _ (nonNeg_avg_terms pw hmono mn a b ys hne), key, key, key]

end ext

end Opda.Emp

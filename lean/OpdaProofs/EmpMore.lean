import OpdaProofs.Emp
/-!
The shape of the step function (C03).  From the weights: `cdf` is monotone with values in `[0,1]`, constant between
consecutive observations (`exists_gap_right` turns that into right-continuity, `Props.C03.cdf_right_continuous`); the weight identity `≤ = < + =` behind "`pmf` is the jump of the cdf"
(the statement itself is `Props.C03.pmf_is_jump`).  From the Galois law: `ppf` is bounded below by `a`, `ppf 0 = a`, and
`ppf` is monotone on `[0,1]`.
-/
namespace Opda.Emp

theorem exists_gap_right {E α : Type} [LinearOrder E] [OrderTop E] (l : List (E × α)) (y : E) (hy : y < ⊤) :
    ∃ y', y < y' ∧ ∀ p ∈ l, ¬ (y < p.1 ∧ p.1 < y') := by
  induction l with
  | nil => exact ⟨⊤, hy, by simp⟩
  | cons hd tl ih =>
    obtain ⟨u, x⟩ := hd
    obtain ⟨y'', hy'', hno⟩ := ih
    by_cases hu : y < u
    · refine ⟨min u y'', lt_min hu hy'', ?_⟩
      intro p hp
      rcases List.mem_cons.mp hp with rfl | hp
      · rintro ⟨_, h2⟩; exact absurd (lt_of_lt_of_le h2 (min_le_left _ _)) (lt_irrefl _)
      · rintro ⟨h1, h2⟩; exact hno p hp ⟨h1, lt_of_lt_of_le h2 (min_le_right _ _)⟩
    · refine ⟨y'', hy'', ?_⟩
      intro p hp
      rcases List.mem_cons.mp hp with rfl | hp
      · rintro ⟨h1, _⟩; exact hu h1
      · exact hno p hp

section weights
variable {E α : Type} [LinearOrder E] [Field α] [LinearOrder α] [IsStrictOrderedRing α]

theorem indicator_le_of_imp {P Q : Prop} [Decidable P] [Decidable Q] (h : P → Q) :
    (if P then (1 : α) else 0) ≤ if Q then 1 else 0 := by
  split_ifs with h1 h2 <;> first | exact le_rfl | exact zero_le_one | exact absurd (h h1) h2

theorem weightLE_mono (l : List (E × α)) (hn : NonNeg l) (y y' : E) (h : y ≤ y') :
    weightLE y l ≤ weightLE y' l := by
  rw [weightLE_eq_phiSum, weightLE_eq_phiSum]
  exact phiSum_le hn fun p _ => indicator_le_of_imp fun h1 => h1.trans h

theorem weightLE_le_weightLT (l : List (E × α)) (hn : NonNeg l) (z y : E) (h : z < y) :
    weightLE z l ≤ weightLT y l := by
  rw [weightLE_eq_phiSum, weightLT_eq_phiSum]
  exact phiSum_le hn fun p _ => indicator_le_of_imp fun h1 => h1.trans_lt h

theorem weightLE_le_total (l : List (E × α)) (hn : NonNeg l) (y : E) : weightLE y l ≤ total l := by
  rw [weightLE_eq_phiSum, total_eq_phiSum]
  exact phiSum_le hn fun p _ => by split_ifs <;> norm_num

theorem weightLE_eq_weightLT_add_weightEq (y : E) (l : List (E × α)) :
    weightLE y l = weightLT y l + weightEq y l := by
  rw [weightLE_eq_phiSum, weightLT_eq_phiSum, weightEq_eq_phiSum, ← phiSum_add]
  refine phiSum_congr fun p _ => ?_
  rcases lt_trichotomy p.1 y with h | h | h
  · rw [if_pos h.le, if_pos h, if_neg h.ne, add_zero]
  · rw [if_pos h.le, if_neg h.not_lt, if_pos h, zero_add]
  · rw [if_neg h.not_ge, if_neg h.not_gt, if_neg h.ne', add_zero]

theorem weightLE_eq_of_no_obs_between (l : List (E × α)) (y y' : E) (h : y ≤ y')
    (hno : ∀ p ∈ l, ¬ (y < p.1 ∧ p.1 ≤ y')) : weightLE y l = weightLE y' l := by
  rw [weightLE_eq_phiSum, weightLE_eq_phiSum]
  exact phiSum_congr fun p hp => if_congr
    ⟨fun h1 => h1.trans h, fun h2 => not_lt.mp fun h1 => hno p hp ⟨h1, h2⟩⟩ rfl rfl

theorem weightLE_eq_weightLT_of_no_obs_between (l : List (E × α)) (z y : E) (h : z < y)
    (hno : ∀ p ∈ l, ¬ (z < p.1 ∧ p.1 < y)) : weightLE z l = weightLT y l := by
  rw [weightLE_eq_phiSum, weightLT_eq_phiSum]
  exact phiSum_congr fun p hp => if_congr
    ⟨fun h1 => h1.trans_lt h, fun h2 => not_lt.mp fun h1 => hno p hp ⟨h1, h2⟩⟩ rfl rfl

end weights

section bounds
variable {E α : Type} [LinearOrder E] [OrderBot E] [OrderTop E]
  [Field α] [LinearOrder α] [IsStrictOrderedRing α]

theorem le_ppf (a : E) (supp : List (E × α)) (q : α) : a ≤ ppf a supp q :=
  ppf_eq_max a supp q ▸ le_max_left _ _

theorem cdf_mono (a b : E) (obs : List (E × α)) (hn : NonNeg obs) (htot : 0 < total obs) (y y' : E) (h : y ≤ y') :
    cdf (support ⊥ ⊤ a b obs) y ≤ cdf (support ⊥ ⊤ a b obs) y' := by
  rw [cdf_support, cdf_support]
  exact div_le_div_of_nonneg_right (weightLE_mono obs hn y y' h) (le_of_lt htot)

theorem cdf_range (a b : E) (obs : List (E × α)) (hn : NonNeg obs) (htot : 0 < total obs) (y : E) :
    0 ≤ cdf (support ⊥ ⊤ a b obs) y ∧ cdf (support ⊥ ⊤ a b obs) y ≤ 1 := by
  rw [cdf_support]
  exact ⟨div_nonneg (weightLE_nonneg y obs hn) (le_of_lt htot),
    (div_le_one htot).mpr (weightLE_le_total obs hn y)⟩

end bounds

section step
variable {E α : Type} [LinearOrder E] [Field α] [LinearOrder α] [IsStrictOrderedRing α] [OrderBot E] [OrderTop E]

/-- The first cumulative level is the weight exactly at `⊥` (−∞) over the total; `0 ≤` it makes `argmax` return index 0,
the atom `⊥`, and `maximum(·, a)` lifts it to `a`. -/
theorem ppf_zero_of_bot_weight (a b : E) (obs : List (E × α)) (h : 0 ≤ weightEq ⊥ obs / total obs) :
    ppf a (support ⊥ ⊤ a b obs) 0 = a := by
  obtain ⟨tl, he⟩ := support_head (α := α) a b obs
  rw [ppf_eq_max, cumN, cum, firstReach_cumAux, total_support, he, reach_cons_pos (by rwa [zero_add])]
  exact max_eq_left bot_le

theorem ppf_zero (a b : E) (obs : List (E × α)) (hn : NonNeg obs) :
    ppf a (support ⊥ ⊤ a b obs) 0 = a :=
  ppf_zero_of_bot_weight a b obs (div_nonneg (weightEq_nonneg ⊥ obs hn) (total_nonneg obs hn))

theorem ppf_mono (a b : E) (obs : List (E × α)) (hn : NonNeg obs) (htot : 0 < total obs)
    (q q' : α) (hq0 : 0 ≤ q) (hqq : q ≤ q') (hq1 : q' ≤ 1) :
    ppf a (support ⊥ ⊤ a b obs) q ≤ ppf a (support ⊥ ⊤ a b obs) q' := by
  rcases eq_or_lt_of_le hq0 with h | h
  · rw [← h, ppf_zero a b obs hn]; exact le_ppf _ _ _
  · -- Galois: `q ≤ q' ≤ cdf (ppf q')`, so `ppf q ≤ ppf q'`
    have h' := (ppf_le_iff a b _ obs hn htot q' (h.trans_le hqq) hq1 (le_ppf _ _ _)).mp le_rfl
    exact (ppf_le_iff a b _ obs hn htot q h (hqq.trans hq1) (le_ppf _ _ _)).mpr (hqq.trans h')

theorem cdf_step (a b : E) (obs : List (E × α)) (y y' : E) (h : y ≤ y')
    (hno : ∀ p ∈ obs, ¬ (y < p.1 ∧ p.1 ≤ y')) :
    cdf (support ⊥ ⊤ a b obs) y = cdf (support ⊥ ⊤ a b obs) y' := by
  rw [cdf_support, cdf_support, weightLE_eq_of_no_obs_between obs y y' h hno]

end step

end Opda.Emp

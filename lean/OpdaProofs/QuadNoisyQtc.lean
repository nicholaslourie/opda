import OpdaModel.NoisyFloat
import OpdaModel.QuadNoisy
import OpdaProofs.NoisyReal
import OpdaProofs.QuadNoisyDual
import Mathlib.Analysis.SpecialFunctions.Pow.Real
import Mathlib.Tactic

/-!
C08 (noisy class): the two facts `Props/C08` needs besides C07's accuracy of `ppf`.  `quantile_tuning_curve` is `ppf` at
the level of the best of `n` draws; at the real instance that level lies strictly inside `(0,1)` for `q ∈ (0,1)` and every
real `n > 0`, which is what C07's theorems ask of the argument of `ppf`.  At the point mass `a = b`, `o = 0` the integrand
of the integrated curve vanishes on the (degenerate) grid (`F(a) = 1`), so the loop returns at round 4 and the curve is
constantly `a`.
-/
namespace Opda.Noisy

section level
variable (T : List (ℕ × List (Entry ℝ))) (ninf pinf : ℝ)

theorem level_real (m : Bool) (q nn : ℝ) :
    level (realFns T ninf pinf) m q nn = if m then 1 - (1 - q) ^ (1 / nn) else q ^ (1 / nn) := by
  simp only [level, realFns_n, realFns_pow, Nat.cast_one]

theorem level_real_mem (m : Bool) (q nn : ℝ) (hq0 : 0 < q) (hq1 : q < 1) (hn : 0 < nn) :
    0 < level (realFns T ninf pinf) m q nn ∧ level (realFns T ninf pinf) m q nn < 1 := by
  rw [level_real]
  have he : 0 < 1 / nn := one_div_pos.mpr hn
  cases m
  · simp only [Bool.false_eq_true, if_false]
    exact ⟨Real.rpow_pos_of_pos hq0 _, Real.rpow_lt_one hq0.le hq1 he⟩
  · simp only [if_true]
    have h1 : 0 < 1 - q := by linarith
    have h2 : 1 - q < 1 := by linarith
    have := Real.rpow_pos_of_pos h1 (1 / nn)
    have := Real.rpow_lt_one h1.le h2 he
    constructor <;> linarith

end level

open Opda.TrapLoop

theorem gRep_pointMass {F : Fns ℝ} (hF : Lawful F) (d : Params ℝ) (hab : d.a = d.b) (ho : d.o = 0)
    (m : Bool) (nn : ℝ) (hp0 : F.pow 0 nn = 0) (hp1 : F.pow 1 nn = 1) :
    gRep F.n F.pow (cdf F d) m nn d.a = 0 := by
  have hc : cdf F d d.a = 1 := by rw [cdf_point_mass hF d hab ho, if_neg (lt_irrefl _)]
  unfold gRep
  rw [hc, hF.n_one]
  cases m <;> simp [hp0, hp1]

/-- **the point mass returns** (the stop test is `err ≤ atol`, as in the code since fd4085d, finding F5; the default
tolerance is `atol = 1e-6·(hi−lo) = 0` here): for `a = b`, `o = 0`, the default tolerance and any budget of at least 4
rounds the loop stops at round 4 and `average_tuning_curve` is constantly `a` (`0ⁿ = 0`, `1ⁿ = 1` for the exponents in
`ns`; true of `rpow` for `n ≠ 0`) -/
theorem averageTuningCurve_pointMass {F : Fns ℝ} (hF : Lawful F) (d : Params ℝ) (hab : d.a = d.b) (ho : d.o = 0)
    (ns : List ℝ) (mn : Option Bool) (hp0 : ∀ nn ∈ ns, F.pow 0 nn = 0) (hp1 : ∀ nn ∈ ns, F.pow 1 nn = 1) :
    averageTuningCurve F d ns mn none = some (ns.map fun _ => d.a) := by
  have hn := n_eq_cast hF
  have hlo : intLo F d = d.a := by unfold intLo; rw [ho]; ring
  have hhi : intHi F d = d.a := by unfold intHi; rw [ho, ← hab]; ring
  have hat : atolOf F d none = 0 := by
    unfold atolOf; rw [hlo, hhi]; simp
  have hz : ∀ nn ∈ ns, ∀ i : ℕ,
      Trap.trap (gRep TrapLoop.cast F.pow (cdf F d) (mn.getD d.convex) nn) d.a d.a i = 0 := by
    intro nn hnn i
    apply trap_zero
    intro k _
    have : d.a + (k:ℝ) * Trap.h d.a d.a i = d.a := by unfold Trap.h; simp
    rw [this, ← hn]
    exact gRep_pointMass hF d hab ho _ nn (hp0 nn hnn) (hp1 nn hnn)
  unfold averageTuningCurve avgRun avgRunCapped
  rw [hat, hlo, hhi, hn]
  obtain ⟨e, he⟩ := runCapped_stationary
    (ns.map fun nn => gRep TrapLoop.cast F.pow (cdf F d) (mn.getD d.convex) nn) d.a d.a 0 le_rfl
    (by
      intro g hg i _ _
      obtain ⟨nn, hnn, rfl⟩ := List.mem_map.mp hg
      rw [hz nn hnn, hz nn hnn]) 30 (by norm_num)
  rw [he]
  simp only [Option.map_some, List.map_map]
  congr 1
  apply List.map_congr_left
  intro nn hnn
  simp only [Function.comp_apply]
  rw [hz nn hnn]; ring

end Opda.Noisy

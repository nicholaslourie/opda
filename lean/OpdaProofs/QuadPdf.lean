import OpdaModel.Quadratic
import OpdaProofs.RealInst
import OpdaProofs.QuadLaw
import Mathlib.Analysis.SpecialFunctions.Pow.Deriv
import Mathlib.Analysis.SpecialFunctions.Integrals.Basic
import Mathlib.Tactic

/-! C05-T4/T5: the density integrates to one, and the `mean` / `variance` attributes are its first two (central)
moments.  Convex shape: `Y = a + (b − a)·W`, `W ~ Beta(c/2, 1)`, as a change of variables under the integral
(`integral_mul_pdf_convex`); concave shape by reflection. -/
namespace Opda.Quad
open Opda Opda.Num MeasureTheory intervalIntegral

theorem mul_rpow_sub_one {t α : ℝ} (ht : 0 ≤ t) (hα : 0 < α) : t * t ^ (α - 1) = t ^ α := by
  rw [← Real.rpow_one_add' ht (by simpa using hα.ne'), add_sub_cancel]

theorem integral_const_mul_rpow (c r : ℝ) (hr : -1 < r) : ∫ t in (0:ℝ)..1, c * t ^ r = c / (r + 1) := by
  rw [intervalIntegral.integral_const_mul, integral_rpow (Or.inl hr), Real.one_rpow,
    Real.zero_rpow (neg_lt_iff_pos_add.mp hr).ne', sub_zero, mul_one_div]

/-- at `z ∈ [0, 1]` the `Beta(α, 1)` distribution function -/
theorem integral_mul_rpow_sub_one {α : ℝ} (hα : 0 < α) (z : ℝ) : ∫ t in (0:ℝ)..z, α * t ^ (α - 1) = z ^ α := by
  rw [intervalIntegral.integral_const_mul, integral_rpow (Or.inl (by linarith)), sub_add_cancel,
    Real.zero_rpow hα.ne', sub_zero, mul_div_cancel₀ _ hα.ne']

/-- at `z ∈ [0, 1]` the `Beta(1, α)` distribution function -/
theorem integral_mul_one_sub_rpow_sub_one {α : ℝ} (hα : 0 < α) (z : ℝ) :
    ∫ t in (0:ℝ)..z, α * (1 - t) ^ (α - 1) = 1 - (1 - z) ^ α := by
  rw [intervalIntegral.integral_const_mul, integral_comp_sub_left (fun s => s ^ (α - 1)) 1,
    integral_rpow (Or.inl (by linarith)), sub_add_cancel, sub_zero, Real.one_rpow, mul_div_cancel₀ _ hα.ne']

theorem intervalIntegrable_const_mul_rpow (c : ℝ) {r : ℝ} (hr : -1 < r) (a b : ℝ) :
    IntervalIntegrable (fun t : ℝ => c * t ^ r) volume a b :=
  (intervalIntegrable_rpow' hr).const_mul c

theorem integral_poly2_rpow (α p0 p1 p2 : ℝ) (hα : 0 < α) :
    ∫ t in (0:ℝ)..1, (p0 + p1 * t + p2 * t ^ 2) * (α * t ^ (α - 1))
      = p0 + p1 * α / (α + 1) + p2 * α / (α + 2) := by
  have hcongr : ∀ t ∈ Set.uIcc (0:ℝ) 1, (p0 + p1 * t + p2 * t ^ 2) * (α * t ^ (α - 1))
      = (p0 * α) * t ^ (α - 1) + (p1 * α) * t ^ α + (p2 * α) * t ^ (α + 1) := by
    intro t ht
    rw [Set.uIcc_of_le zero_le_one] at ht
    rw [Real.rpow_add_one' ht.1 (by linarith), ← mul_rpow_sub_one ht.1 hα]; ring
  have i0 := intervalIntegrable_const_mul_rpow (p0 * α) (show -1 < α - 1 by linarith) 0 1
  have i1 := intervalIntegrable_const_mul_rpow (p1 * α) (show -1 < α by linarith) 0 1
  have i2 := intervalIntegrable_const_mul_rpow (p2 * α) (show -1 < α + 1 by linarith) 0 1
  rw [integral_congr hcongr, integral_add (i0.add i1) i2, integral_add i0 i1,
    integral_const_mul_rpow _ _ (by linarith), integral_const_mul_rpow _ _ (by linarith),
    integral_const_mul_rpow _ _ (by linarith)]
  -- the three values are `p₀ α/(α−1+1)`, `p₁ α/(α+1)`, `p₂ α/(α+1+1)`: bring the first and the last to the stated form
  rw [sub_add_cancel, mul_div_cancel_right₀ _ hα.ne', add_assoc α, one_add_one_eq_two]

theorem pdf_outside (d : Params ℝ) (hab : d.a < d.b) (y : ℝ) (h : y < d.a ∨ d.b < y) : pdf d y = 0 := by
  rw [pdf_eq d hab, if_pos h]

/-- Mathlib's `intervalIntegral.integral_eq_integral_of_support_subset` wants the support inside `Ioc a b`; `pdf` may be
nonzero at `a`, so the hypothesis here is vanishing off `Icc a b` (the point `a` is null) -/
theorem integral_univ_eq_interval (f : ℝ → ℝ) (a b : ℝ) (hab : a ≤ b)
    (h0 : ∀ y, y < a ∨ b < y → f y = 0) : ∫ y, f y = ∫ y in a..b, f y := by
  rw [integral_of_le hab, ← integral_Icc_eq_integral_Ioc,
    setIntegral_eq_integral_of_forall_compl_eq_zero]
  intro y hy
  apply h0
  by_contra hcon
  push Not at hcon
  exact hy ⟨hcon.1, hcon.2⟩

theorem integral_mul_pdf_convex (d : Params ℝ) (hab : d.a < d.b) (hcv : d.convex) (φ : ℝ → ℝ) :
    ∫ y, φ y * pdf d y
      = ∫ t in (0:ℝ)..1, φ (d.a + (d.b - d.a) * t) * ((d.c:ℝ) / 2 * t ^ ((d.c:ℝ) / 2 - 1)) := by
  have hw := (sub_pos.mpr hab).ne'
  have := smul_integral_comp_add_mul (a := 0) (b := 1) (fun y => φ y * pdf d y) (d.b - d.a) d.a
  rw [mul_zero, add_zero, mul_one, add_sub_cancel, smul_eq_mul, ← intervalIntegral.integral_const_mul] at this
  rw [integral_univ_eq_interval _ d.a d.b hab.le (fun y h => by rw [pdf_outside d hab y h, mul_zero]), ← this]
  refine integral_congr fun t ht => ?_
  rw [Set.uIcc_of_le zero_le_one] at ht
  obtain ⟨h1, h2⟩ := Small.lerp_mem hab.le ht.1 ht.2
  -- at `y = a + (b−a) t` inside the support: `(y − a)/(b − a) = t`, and the Jacobian `b − a` cancels the `1/(b − a)` of `pdf_eq`
  rw [pdf_eq d hab, if_neg (not_or.mpr ⟨h1.not_gt, h2.not_gt⟩), if_pos hcv, add_sub_cancel_left,
    mul_div_cancel_left₀ _ hw, mul_left_comm, mul_div_cancel₀ _ hw]

theorem integral_mul_pdf_reflect (d : Params ℝ) (hab : d.a < d.b) (φ : ℝ → ℝ) :
    ∫ y, φ y * pdf d y = ∫ y, φ (-y) * pdf (reflect d) y := by
  rw [← integral_neg_eq_self]
  simp only [pdf_reflect d hab, neg_neg]

theorem integral_mul_pdf_of_poly2 (d : Params ℝ) (hab : d.a < d.b) (hc : 0 < d.c) (hcv : d.convex) (φ : ℝ → ℝ)
    (p0 p1 p2 : ℝ) (h : ∀ t, φ (d.a + (d.b - d.a) * t) = p0 + p1 * t + p2 * t ^ 2) :
    ∫ y, φ y * pdf d y = p0 + p1 * ((d.c:ℝ) / 2) / ((d.c:ℝ) / 2 + 1) + p2 * ((d.c:ℝ) / 2) / ((d.c:ℝ) / 2 + 2) := by
  rw [integral_mul_pdf_convex d hab hcv]
  simp only [h]
  exact integral_poly2_rpow _ p0 p1 p2 (by positivity)

/-- C05-T4 -/
theorem integral_univ_pdf (d : Params ℝ) (hab : d.a < d.b) (hc : 0 < d.c) : ∫ y, pdf d y = 1 := by
  wlog hcv : d.convex generalizing d
  · rw [← this (reflect d) (neg_lt_neg hab) hc (reflect_convex hcv)]
    simpa using integral_mul_pdf_reflect d hab fun _ => 1
  simpa using integral_mul_pdf_of_poly2 d hab hc hcv (fun _ => 1) 1 0 0 (fun _ => by ring)

/-- C05-T5, first moment -/
theorem integral_univ_mul_pdf (d : Params ℝ) (hab : d.a < d.b) (hc : 0 < d.c) :
    ∫ y, y * pdf d y = mean d := by
  wlog hcv : d.convex generalizing d
  · rw [integral_mul_pdf_reflect d hab, mean_reflect d, ← this (reflect d) (neg_lt_neg hab) hc (reflect_convex hcv),
      ← MeasureTheory.integral_neg]
    simp only [neg_mul]
  have hc' : (0:ℝ) < d.c := Nat.cast_pos.mpr hc
  rw [integral_mul_pdf_of_poly2 d hab hc hcv (fun y => y) d.a (d.b - d.a) 0 (fun t => by ring), mean_eq, if_pos hcv]
  field_simp
  ring

/-- C05-T5, second central moment -/
theorem integral_univ_sq_mul_pdf (d : Params ℝ) (hab : d.a < d.b) (hc : 0 < d.c) :
    ∫ y, (y - mean d) ^ 2 * pdf d y = variance d := by
  wlog hcv : d.convex generalizing d
  · rw [integral_mul_pdf_reflect d hab, variance_reflect, ← this (reflect d) (neg_lt_neg hab) hc (reflect_convex hcv),
      mean_reflect d]
    simp only [neg_sub_neg, ← neg_sub (mean (reflect d)), neg_sq]
  have hc' : (0:ℝ) < d.c := Nat.cast_pos.mpr hc
  rw [integral_mul_pdf_of_poly2 d hab hc hcv (fun y => (y - mean d) ^ 2) ((d.a - mean d) ^ 2)
    (2 * (d.a - mean d) * (d.b - d.a)) ((d.b - d.a) ^ 2) (fun t => by ring), mean_eq, if_pos hcv, variance_eq]
  field_simp
  ring
end Opda.Quad

import OpdaModel.Quadratic
import OpdaProofs.RealInst
import OpdaProofs.QuadPdf
import Mathlib.Probability.Distributions.Beta
import Mathlib.Analysis.SpecialFunctions.Integrals.Basic
import Mathlib.Tactic

/-! C05-T3: the cdf is the location–scale `Beta(c/2, 1)` resp. `Beta(1, c/2)` distribution function.
`cdf_eq_beta_convex` / `cdf_eq_beta_concave` say it without measure theory: the cdf is the integral of the Beta density
`α t^{α−1}` resp. `α (1−t)^{α−1}` from `0` to the standardised, clipped argument `std d y` (`QuadLaw.std`).  The rest
of the file computes the distribution functions of Mathlib's own `ProbabilityTheory.betaMeasure` for the shapes `(α, 1)`
and `(1, α)` at every real `t`; with `QuadLaw.cdf_eq_std` they give `Props.C05.cdf_is_beta_convex` / `_concave`. -/
namespace Opda.Quad
open Opda Opda.Num MeasureTheory intervalIntegral Set ProbabilityTheory

/-- **T3 (Beta(c/2, 1))**: convex cdf `= ∫₀^z α t^{α−1} dt`, `α = c/2`, `z = (y−a)/(b−a)` clipped to `[0,1]` -/
theorem cdf_eq_beta_convex (d : Params ℝ) (hab : d.a < d.b) (hc : 0 < d.c) (hcv : d.convex = true) (y : ℝ) :
    cdf d y = ∫ t in (0:ℝ)..(std d y), ((d.c:ℝ) / 2) * t ^ ((d.c:ℝ) / 2 - 1) := by
  rw [integral_mul_rpow_sub_one (by positivity), cdf_eq d hab, if_pos hcv, std]

/-- **T3 (Beta(1, c/2))**: concave cdf `= ∫₀^z α (1−t)^{α−1} dt` -/
theorem cdf_eq_beta_concave (d : Params ℝ) (hab : d.a < d.b) (hc : 0 < d.c) (hcv : d.convex = false) (y : ℝ) :
    cdf d y = ∫ t in (0:ℝ)..(std d y), ((d.c:ℝ) / 2) * (1 - t) ^ ((d.c:ℝ) / 2 - 1) := by
  rw [integral_mul_one_sub_rpow_sub_one (by positivity), cdf_eq d hab, if_neg (by simp [hcv]), std,
    one_sub_div (sub_pos.mpr hab).ne', sub_sub_sub_cancel_right]

theorem beta_right_one (α : ℝ) (hα : 0 < α) : ProbabilityTheory.beta α 1 = 1 / α := by
  unfold ProbabilityTheory.beta
  rw [Real.Gamma_one, Real.Gamma_add_one hα.ne', mul_one, div_mul_cancel_right₀ (Real.Gamma_pos_of_pos hα).ne',
    one_div]

theorem beta_left_one (α : ℝ) (hα : 0 < α) : ProbabilityTheory.beta 1 α = 1 / α := by
  rw [← beta_right_one α hα, ProbabilityTheory.beta, ProbabilityTheory.beta, mul_comm, add_comm]

theorem betaPDF_eq_indicator (α β : ℝ) :
    betaPDF α β = (Ioo (0:ℝ) 1).indicator
      (fun t => ENNReal.ofReal (1 / ProbabilityTheory.beta α β * t ^ (α - 1) * (1 - t) ^ (β - 1))) := by
  funext x
  simp only [betaPDF_eq, apply_ite ENNReal.ofReal, ENNReal.ofReal_zero, indicator_apply, mem_Ioo]

theorem withDensity_indicator_Iic (g : ℝ → ℝ) (z : ℝ) (hz0 : 0 ≤ z) (hz1 : z ≤ 1)
    (hg : IntervalIntegrable g volume 0 z) (hnn : ∀ t ∈ Ioc (0:ℝ) z, 0 ≤ g t) :
    (volume.withDensity ((Ioo (0:ℝ) 1).indicator (fun t => ENNReal.ofReal (g t)))) (Iic z)
      = ENNReal.ofReal (∫ t in (0:ℝ)..z, g t) := by
  rw [withDensity_apply _ measurableSet_Iic, ← lintegral_indicator measurableSet_Iic,
    indicator_indicator, lintegral_indicator (measurableSet_Iic.inter measurableSet_Ioo)]
  have hset : (Iic z ∩ Ioo (0:ℝ) 1 : Set ℝ) =ᵐ[volume] Ioc 0 z := by
    have h1 : (Iic z ∩ Ioo (0:ℝ) 1 : Set ℝ) =ᵐ[volume] (Iic z ∩ Ioc (0:ℝ) 1 : Set ℝ) :=
      (ae_eq_refl _).inter Ioo_ae_eq_Ioc
    have h2 : (Iic z ∩ Ioc (0:ℝ) 1 : Set ℝ) = Ioc 0 z := by
      ext x; simp only [mem_inter_iff, mem_Iic, mem_Ioc]
      constructor
      · rintro ⟨h, h0, _⟩; exact ⟨h0, h⟩
      · rintro ⟨h0, h⟩; exact ⟨h, h0, h.trans hz1⟩
    rw [← h2]; exact h1
  rw [setLIntegral_congr hset, integral_of_le hz0,
    ofReal_integral_eq_lintegral_ofReal ((intervalIntegrable_iff_integrableOn_Ioc_of_le hz0).mp hg)
      (ae_restrict_of_forall_mem measurableSet_Ioc hnn)]

/-- the density lives on `(0,1)`, so only `clip z 0 1` matters -/
theorem withDensity_indicator_Iic_clip (f : ℝ → ENNReal) (z : ℝ) :
    (volume.withDensity ((Ioo (0:ℝ) 1).indicator f)) (Iic z)
      = (volume.withDensity ((Ioo (0:ℝ) 1).indicator f)) (Iic (clip z 0 1)) := by
  rw [withDensity_apply _ measurableSet_Iic, withDensity_apply _ measurableSet_Iic,
    ← lintegral_indicator measurableSet_Iic, ← lintegral_indicator measurableSet_Iic,
    indicator_indicator, indicator_indicator]
  have hset : (Iic z ∩ Ioo (0:ℝ) 1 : Set ℝ) = Iic (clip z 0 1) ∩ Ioo (0:ℝ) 1 := by
    ext x
    simp only [mem_inter_iff, mem_Iic, mem_Ioo]
    unfold clip
    split_ifs with h1 h2
    · constructor
      · rintro ⟨h, h0, _⟩; linarith
      · rintro ⟨h, h0, _⟩; linarith
    · constructor
      · rintro ⟨_, h0, h3⟩; exact ⟨h3.le, h0, h3⟩
      · rintro ⟨_, h0, h3⟩; exact ⟨by linarith, h0, h3⟩
    · rfl
  rw [hset]

theorem betaMeasure_right_one_Iic (α : ℝ) (hα : 0 < α) (t : ℝ) :
    betaMeasure α 1 (Iic t) = ENNReal.ofReal (clip t 0 1 ^ α) := by
  obtain ⟨h0, h1⟩ := clip_mem t 0 1 zero_le_one
  unfold betaMeasure
  rw [betaPDF_eq_indicator]
  simp only [sub_self, Real.rpow_zero, mul_one, beta_right_one α hα, one_div_one_div]
  rw [withDensity_indicator_Iic_clip,
    withDensity_indicator_Iic (fun t => α * t ^ (α - 1)) _ h0 h1
      (intervalIntegrable_const_mul_rpow α (by linarith) _ _)
      (fun t ht => mul_nonneg hα.le (Real.rpow_nonneg ht.1.le _)),
    integral_mul_rpow_sub_one hα]

theorem betaMeasure_left_one_Iic (α : ℝ) (hα : 0 < α) (t : ℝ) :
    betaMeasure 1 α (Iic t) = ENNReal.ofReal (1 - (1 - clip t 0 1) ^ α) := by
  obtain ⟨h0, h1⟩ := clip_mem t 0 1 zero_le_one
  have hint : IntervalIntegrable (fun t : ℝ => α * (1 - t) ^ (α - 1)) volume 0 (clip t 0 1) := by
    have h := (intervalIntegrable_rpow' (a := 1 - 0) (b := 1 - clip t 0 1) (r := α - 1) (by linarith)).comp_sub_left 1
    simp only [sub_sub_cancel] at h
    exact h.const_mul α
  unfold betaMeasure
  rw [betaPDF_eq_indicator]
  simp only [sub_self, Real.rpow_zero, mul_one, beta_left_one α hα, one_div_one_div]
  rw [withDensity_indicator_Iic_clip,
    withDensity_indicator_Iic (fun t => α * (1 - t) ^ (α - 1)) _ h0 h1 hint
      (fun t ht => mul_nonneg hα.le (Real.rpow_nonneg (by linarith [ht.2]) _)),
    integral_mul_one_sub_rpow_sub_one hα]

end Opda.Quad

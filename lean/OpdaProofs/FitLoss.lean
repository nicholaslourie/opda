import OpdaModel.FitPlan
import Mathlib.Analysis.SpecialFunctions.Log.Basic
import Mathlib.Tactic

/-!
The executable loss of `OpdaModel/FitPlan.lean` (`loss`, `sumWhere`, `lossTerm`, `diffs`, `sortList`) at `ℝ`
with `ofNat := Nat.cast`, `log := Real.log`.

One bucket with count `k` and spacing `d` contributes `q · log (d / q)`, `q = k/(n+1)` (`bucket_eq`, also
for `k = 0`), so the loss is the grouped log-likelihood up to a constant and the Kullback–Leibler sum
`Σ q·log(q/d)`; `q · log (d / q) ≤ d - q` with equality iff `d = q` (`mul_log_div_le`) gives Gibbs'
inequality and its equality case term by term.  Statements are about the spacings (`lossZ n ks ds`); the
`_ps` forms are the same for the model's `loss` on cdf values `ps`, through `ds := diffs ps`
(`lossR_eq_lossZ`, by `rfl`; conversely `lossZ_eq_lossR_partialSums`).
-/

namespace Opda.Fit

theorem loss_sumWhere_acc {α : Type} [DivisionRing α] (ofNat : Nat → α) (log : α → α) (n : Nat)
    (l : List (Nat × α)) (acc : α) :
    sumWhere ofNat log n l acc = acc + sumWhere ofNat log n l 0 := by
  induction l generalizing acc with
  | nil => simp [sumWhere]
  | cons p rest ih =>
    obtain ⟨k, d⟩ := p
    simp only [sumWhere]
    rw [ih, ih (if 0 < k then _ else _)]
    split_ifs <;> simp [add_assoc]

/-- `loss (fun k => (k : ℝ)) Real.log`: the model's `loss` with `ofNat := Nat.cast`, `log := Real.log`.  The
statements about cdf values (`_ps`, Props/C10) write this term out; `lossR_eq_lossZ` ties it to `lossZ`. -/
noncomputable abbrev lossR (n : Nat) (ks : List Nat) (ps : List ℝ) : ℝ :=
  loss (fun k : Nat => (k : ℝ)) Real.log n ks ps

/-- the body of the model's `loss` at `ℝ`, as a function of the spacings `ds = diffs ps` -/
noncomputable def lossZ (n : Nat) (ks : List Nat) (ds : List ℝ) : ℝ :=
  - sumWhere (fun k : Nat => (k : ℝ)) Real.log n (ks.zip ds) ((fun k : Nat => (k : ℝ)) 0)

theorem lossR_eq_lossZ (n : Nat) (ks : List Nat) (ps : List ℝ) :
    lossR n ks ps = lossZ n ks (diffs ps) := rfl

/-- `Σ k · log d` over the buckets (a bucket with `k = 0` contributes `0`) -/
noncomputable def groupedLogLik (ks : List Nat) (ds : List ℝ) : ℝ :=
  ((ks.zip ds).map fun p : Nat × ℝ => (p.1 : ℝ) * Real.log p.2).sum

/-- the part of the loss that depends on `n` and `ks` only (a bucket with `k = 0` contributes `0`) -/
noncomputable def lossConst (n : Nat) (ks : List Nat) : ℝ :=
  -(1 / ((n : ℝ) + 1)) * (ks.map fun k : Nat => (k : ℝ) * Real.log (((n : ℝ) + 1) / (k : ℝ))).sum

/-- `KL(q ‖ d)` with `q = k / (n + 1)` (a bucket with `k = 0` contributes `0`) -/
noncomputable def klSum (n : Nat) (ks : List Nat) (ds : List ℝ) : ℝ :=
  ((ks.zip ds).map fun p : Nat × ℝ => ((p.1 : ℝ) / ((n : ℝ) + 1)) * Real.log (((p.1 : ℝ) / ((n : ℝ) + 1)) / p.2)).sum

/-- what one bucket adds to the accumulator of `sumWhere` -/
noncomputable def bucket (n : Nat) (p : Nat × ℝ) : ℝ :=
  if 0 < p.1 then lossTerm (fun k : Nat => (k : ℝ)) Real.log n p.1 p.2 else 0

theorem sumWhere_eq_sum (n : Nat) (l : List (Nat × ℝ)) :
    sumWhere (fun k : Nat => (k : ℝ)) Real.log n l 0 = (l.map (bucket n)).sum := by
  induction l with
  | nil => simp [sumWhere]
  | cons p rest ih =>
    obtain ⟨k, d⟩ := p
    simp only [sumWhere, List.map_cons, List.sum_cons]
    rw [loss_sumWhere_acc, ih]
    by_cases hk : 0 < k <;> simp [bucket, hk]

theorem lossZ_eq_sum (n : Nat) (ks : List Nat) (ds : List ℝ) :
    lossZ n ks ds = - ((ks.zip ds).map (bucket n)).sum := by
  unfold lossZ
  rw [show ((fun k : Nat => (k : ℝ)) 0) = 0 from Nat.cast_zero, sumWhere_eq_sum]

/-- one bucket in closed form, `q = k/(n+1)` its empirical mass (for `k = 0` both sides are `0`) -/
theorem bucket_eq (n k : Nat) (d : ℝ) :
    bucket n (k, d) = ((k : ℝ) / ((n : ℝ) + 1)) * Real.log (d / ((k : ℝ) / ((n : ℝ) + 1))) := by
  rcases Nat.eq_zero_or_pos k with rfl | hk
  · simp [bucket]
  · simp only [bucket, hk, if_true, lossTerm]
    push_cast
    rw [div_div_eq_mul_div, mul_div_right_comm]

/-- Gibbs' inequality for one term, from `log x ≤ x - 1` at `x = d / q`, with its equality case -/
theorem mul_log_div_le {q d : ℝ} (hq : 0 ≤ q) (h : 0 < q → 0 < d) :
    (0 ≤ d → q * Real.log (d / q) ≤ d - q) ∧ (q * Real.log (d / q) = d - q ↔ d = q) := by
  rcases hq.eq_or_lt with rfl | hq
  · simp [eq_comm]
  · have hx : 0 < d / q := div_pos (h hq) hq
    have e : d - q = q * (d / q - 1) := by field_simp
    rw [e, mul_le_mul_iff_right₀ hq, mul_right_inj' hq.ne']
    refine ⟨fun _ => Real.log_le_sub_one_of_pos hx, fun heq => ?_, fun hdq => by simp [hdq, hq.ne']⟩
    by_contra hne
    exact (Real.log_lt_sub_one_of_pos hx (by rwa [ne_eq, div_eq_one_iff_eq hq.ne'])).ne heq

theorem mass_pos_imp {n k : Nat} {d : ℝ} (h : 0 < k → 0 < d) (hq : 0 < (k : ℝ) / ((n : ℝ) + 1)) : 0 < d :=
  h (Nat.pos_of_ne_zero fun hk => by simp [hk] at hq)

theorem bucket_eq_loglik (n k : Nat) (d : ℝ) (h : 0 < k → 0 < d) :
    bucket n (k, d) = (1 / ((n : ℝ) + 1)) * ((k : ℝ) * Real.log d + (k : ℝ) * Real.log (((n : ℝ) + 1) / k)) := by
  rw [bucket_eq]
  rcases Nat.eq_zero_or_pos k with rfl | hk
  · simp
  · have hk' : (0 : ℝ) < k := by exact_mod_cast hk
    have hN : (0 : ℝ) < (n : ℝ) + 1 := by positivity
    rw [div_eq_mul_inv d, inv_div, Real.log_mul (h hk).ne' (div_pos hN hk').ne']
    ring

theorem bucket_eq_kl (n k : Nat) (d : ℝ) :
    bucket n (k, d) = -(((k : ℝ) / ((n : ℝ) + 1)) * Real.log (((k : ℝ) / ((n : ℝ) + 1)) / d)) := by
  rw [bucket_eq, ← inv_div _ d, Real.log_inv, mul_neg]

theorem bucket_le (n k : Nat) (d : ℝ) (hd0 : 0 ≤ d) (h : 0 < k → 0 < d) :
    bucket n (k, d) ≤ d - (k : ℝ) / ((n : ℝ) + 1) :=
  bucket_eq n k d ▸ (mul_log_div_le (by positivity) (mass_pos_imp h)).1 hd0

theorem bucket_eq_iff (n k : Nat) (d : ℝ) (h : 0 < k → 0 < d) :
    bucket n (k, d) = d - (k : ℝ) / ((n : ℝ) + 1) ↔ d = (k : ℝ) / ((n : ℝ) + 1) :=
  bucket_eq n k d ▸ (mul_log_div_le (by positivity) (mass_pos_imp h)).2

theorem sum_map_eq_iff_of_le {β : Type} (f g : β → ℝ) (l : List β) (h : ∀ p ∈ l, f p ≤ g p) :
    (l.map f).sum = (l.map g).sum ↔ ∀ p ∈ l, f p = g p := by
  induction l with
  | nil => simp
  | cons a rest ih =>
    obtain ⟨ha, hrest⟩ := List.forall_mem_cons.mp h
    have hle : (rest.map f).sum ≤ (rest.map g).sum := List.sum_le_sum hrest
    simp only [List.map_cons, List.sum_cons, List.forall_mem_cons, ← ih hrest]
    exact ⟨fun heq => ⟨by linarith, by linarith⟩, fun ⟨h1, h2⟩ => by rw [h1, h2]⟩

theorem sum_snd_sub_fst (N : ℝ) (l : List (Nat × ℝ)) :
    (l.map fun p => p.2 - (p.1 : ℝ) / N).sum
      = (l.map Prod.snd).sum - (((l.map Prod.fst).sum : ℕ) : ℝ) / N := by
  induction l with
  | nil => simp
  | cons a rest ih =>
    simp only [List.map_cons, List.sum_cons, ih]
    push_cast
    ring

/-- the bound `Σ (dᵢ - kᵢ/(n+1))` of Gibbs' inequality when the counts sum to `n + 1` -/
theorem sum_zip_sub (n : Nat) (ks : List Nat) (ds : List ℝ) (hlen : ds.length = ks.length)
    (hsum : ks.sum = n + 1) :
    ((ks.zip ds).map fun p => p.2 - (p.1 : ℝ) / ((n : ℝ) + 1)).sum = ds.sum - 1 := by
  rw [sum_snd_sub_fst, List.map_fst_zip (by omega), List.map_snd_zip (by omega), hsum]
  push_cast
  rw [div_self (by positivity)]

theorem loss_eq_grouped_loglik (n : Nat) (ks : List Nat) (ds : List ℝ) (hlen : ds.length = ks.length)
    (hpos : ∀ p ∈ ks.zip ds, 0 < p.1 → 0 < p.2) :
    lossZ n ks ds = -(1 / ((n : ℝ) + 1)) * groupedLogLik ks ds + lossConst n ks := by
  rw [lossZ_eq_sum, groupedLogLik, lossConst]
  have hks : (ks.map fun k : Nat => (k : ℝ) * Real.log (((n : ℝ) + 1) / (k : ℝ))).sum
      = ((ks.zip ds).map fun p : Nat × ℝ => (p.1 : ℝ) * Real.log (((n : ℝ) + 1) / (p.1 : ℝ))).sum := by
    conv_lhs => rw [← List.map_fst_zip (l₁ := ks) (l₂ := ds) (by omega)]
    rw [List.map_map]
    rfl
  rw [hks, List.map_congr_left fun p hp => bucket_eq_loglik n p.1 p.2 (hpos p hp), List.sum_map_mul_left,
    List.sum_map_add]
  ring

theorem loss_eq_grouped_loglik_ps (n : Nat) (ks : List Nat) (ps : List ℝ)
    (hlen : (diffs ps).length = ks.length)
    (hpos : ∀ p ∈ ks.zip (diffs ps), 0 < p.1 → 0 < p.2) :
    loss (fun k : Nat => (k : ℝ)) Real.log n ks ps
      = -(1 / ((n : ℝ) + 1)) * groupedLogLik ks (diffs ps) + lossConst n ks :=
  loss_eq_grouped_loglik n ks (diffs ps) hlen hpos

theorem loss_eq_kl (n : Nat) (ks : List Nat) (ds : List ℝ) : lossZ n ks ds = klSum n ks ds := by
  rw [lossZ_eq_sum, klSum, List.sum_neg, List.map_map]
  exact congrArg List.sum (List.map_congr_left fun (k, d) _ => by simp only [Function.comp, bucket_eq_kl, neg_neg])

theorem zip_bucket_le (n : Nat) (ks : List Nat) (ds : List ℝ) (hnn : ∀ d ∈ ds, 0 ≤ d)
    (hpos : ∀ p ∈ ks.zip ds, 0 < p.1 → 0 < p.2) :
    ∀ p ∈ ks.zip ds, bucket n p ≤ p.2 - (p.1 : ℝ) / ((n : ℝ) + 1) := by
  rintro ⟨k, d⟩ hp
  exact bucket_le n k d (hnn d (List.of_mem_zip hp).2) (hpos (k, d) hp)

/-- Gibbs, quantitative form: the loss is at least the mass the spacings leave out -/
theorem loss_ge_one_sub_sum (n : Nat) (ks : List Nat) (ds : List ℝ) (hlen : ds.length = ks.length)
    (hsum : ks.sum = n + 1) (hnn : ∀ d ∈ ds, 0 ≤ d) (hpos : ∀ p ∈ ks.zip ds, 0 < p.1 → 0 < p.2) :
    1 - ds.sum ≤ lossZ n ks ds := by
  have h := List.sum_le_sum (zip_bucket_le n ks ds hnn hpos)
  rw [sum_zip_sub n ks ds hlen hsum] at h
  rw [lossZ_eq_sum]
  linarith

theorem loss_nonneg (n : Nat) (ks : List Nat) (ds : List ℝ) (hlen : ds.length = ks.length)
    (hsum : ks.sum = n + 1) (hnn : ∀ d ∈ ds, 0 ≤ d) (hpos : ∀ p ∈ ks.zip ds, 0 < p.1 → 0 < p.2)
    (hle : ds.sum ≤ 1) : 0 ≤ lossZ n ks ds := by
  have := loss_ge_one_sub_sum n ks ds hlen hsum hnn hpos
  linarith

/-- `←` of the equality case needs no hypothesis at all -/
theorem loss_eq_zero_of_forall (n : Nat) (ks : List Nat) (ds : List ℝ)
    (h : ∀ p ∈ ks.zip ds, p.2 = (p.1 : ℝ) / ((n : ℝ) + 1)) : lossZ n ks ds = 0 := by
  rw [lossZ_eq_sum, neg_eq_zero]
  refine List.sum_eq_zero fun x hx => ?_
  obtain ⟨⟨k, d⟩, hp, rfl⟩ := List.mem_map.mp hx
  obtain rfl : d = (k : ℝ) / ((n : ℝ) + 1) := h (k, d) hp
  rw [bucket_eq]
  rcases eq_or_ne ((k : ℝ) / ((n : ℝ) + 1)) 0 with h0 | h0
  · rw [h0, zero_mul]
  · rw [div_self h0, Real.log_one, mul_zero]

theorem loss_eq_zero_iff (n : Nat) (ks : List Nat) (ds : List ℝ) (hlen : ds.length = ks.length)
    (hsum : ks.sum = n + 1) (hnn : ∀ d ∈ ds, 0 ≤ d) (hpos : ∀ p ∈ ks.zip ds, 0 < p.1 → 0 < p.2)
    (hone : ds.sum = 1) :
    lossZ n ks ds = 0 ↔ ∀ p ∈ ks.zip ds, p.2 = (p.1 : ℝ) / ((n : ℝ) + 1) := by
  refine ⟨fun h0 => ?_, loss_eq_zero_of_forall n ks ds⟩
  -- every term is at most its bound and the sums agree, so every term attains its bound
  have hs : ((ks.zip ds).map (bucket n)).sum
      = ((ks.zip ds).map fun p => p.2 - (p.1 : ℝ) / ((n : ℝ) + 1)).sum := by
    rw [sum_zip_sub n ks ds hlen hsum, hone]
    rw [lossZ_eq_sum] at h0
    linarith
  have hall := (sum_map_eq_iff_of_le _ _ _ (zip_bucket_le n ks ds hnn hpos)).mp hs
  rintro ⟨k, d⟩ hp
  exact (bucket_eq_iff n k d (hpos (k, d) hp)).mp (hall (k, d) hp)

theorem diffs_length {α : Type} [Sub α] : ∀ l : List α, (diffs l).length = l.length - 1
  | [] => rfl
  | [_] => rfl
  | _ :: b :: rest => by
    simp only [diffs, List.length_cons, diffs_length (b :: rest)]
    omega

theorem sum_diffs_cons (a : ℝ) (l : List ℝ) : (diffs (a :: l)).sum = l.getLastD a - a := by
  induction l generalizing a with
  | nil => simp [diffs]
  | cons b rest ih =>
    simp only [diffs, List.sum_cons, ih b, List.getLastD_cons]
    ring

theorem diffs_nonneg_of_pairwise : ∀ l : List ℝ, l.Pairwise (· ≤ ·) → ∀ d ∈ diffs l, 0 ≤ d
  | [], _ => by simp [diffs]
  | [_], _ => by simp [diffs]
  | a :: b :: rest, h => by
    intro d hd
    rw [List.pairwise_cons] at h
    simp only [diffs, List.mem_cons] at hd
    rcases hd with rfl | hd
    · exact sub_nonneg.mpr (h.1 b (by simp))
    · exact diffs_nonneg_of_pairwise (b :: rest) h.2 d hd

theorem sum_diffs_le_one (ps : List ℝ) (h01 : ∀ p ∈ ps, 0 ≤ p ∧ p ≤ 1) : (diffs ps).sum ≤ 1 := by
  cases ps with
  | nil => simp [diffs]
  | cons a l =>
    rw [sum_diffs_cons]
    linarith [(h01 a List.mem_cons_self).1, (h01 _ List.getLastD_mem_cons).2]

theorem loss_nonneg_ps (n : Nat) (ks : List Nat) (ps : List ℝ) (hlen : ps.length = ks.length + 1)
    (hsum : ks.sum = n + 1) (hmono : ps.Pairwise (· ≤ ·)) (h01 : ∀ p ∈ ps, 0 ≤ p ∧ p ≤ 1)
    (hpos : ∀ p ∈ ks.zip (diffs ps), 0 < p.1 → 0 < p.2) :
    0 ≤ loss (fun k : Nat => (k : ℝ)) Real.log n ks ps :=
  loss_nonneg n ks (diffs ps) (by rw [diffs_length]; omega) hsum (diffs_nonneg_of_pairwise ps hmono) hpos
    (sum_diffs_le_one ps h01)

theorem loss_eq_zero_iff_ps (n : Nat) (ks : List Nat) (a : ℝ) (l : List ℝ)
    (hlen : l.length = ks.length) (hsum : ks.sum = n + 1) (hmono : (a :: l).Pairwise (· ≤ ·))
    (hpos : ∀ p ∈ ks.zip (diffs (a :: l)), 0 < p.1 → 0 < p.2) (hends : l.getLastD a - a = 1) :
    loss (fun k : Nat => (k : ℝ)) Real.log n ks (a :: l) = 0
      ↔ ∀ p ∈ ks.zip (diffs (a :: l)), p.2 = (p.1 : ℝ) / ((n : ℝ) + 1) :=
  loss_eq_zero_iff n ks (diffs (a :: l)) (by rw [diffs_length]; simpa using hlen) hsum
    (diffs_nonneg_of_pairwise _ hmono) hpos (by rw [sum_diffs_cons, hends])

/-- cdf values with prescribed first value and spacings -/
def partialSums (a : ℝ) : List ℝ → List ℝ
  | [] => [a]
  | d :: ds => a :: partialSums (a + d) ds

theorem diffs_partialSums (a : ℝ) (ds : List ℝ) : diffs (partialSums a ds) = ds := by
  induction ds generalizing a with
  | nil => rfl
  | cons d ds ih =>
    -- `partialSums (a + d) ds` starts with `a + d`, whatever `ds` is
    obtain ⟨t, ht⟩ : ∃ t, partialSums (a + d) ds = (a + d) :: t := by cases ds <;> exact ⟨_, rfl⟩
    rw [partialSums, ht, diffs, ← ht, ih, add_sub_cancel_left]

/-- every spacing-form statement is a statement about the model's `loss` -/
theorem lossZ_eq_lossR_partialSums (n : Nat) (ks : List Nat) (ds : List ℝ) :
    lossZ n ks ds = loss (fun k : Nat => (k : ℝ)) Real.log n ks (partialSums 0 ds) := by
  rw [show loss (fun k : Nat => (k : ℝ)) Real.log n ks (partialSums 0 ds)
      = lossZ n ks (diffs (partialSums 0 ds)) from rfl, diffs_partialSums]

section SortList
-- The model's `sortList` takes `[LT α] [DecidableLT α]` as parameters.  The lemmas are stated for an arbitrary
-- `DecidableLT` instance beside the order, so that they apply to whichever instance a `sortList` term was
-- elaborated with (at `ℝ` instance search finds `Real.decidableLT`, not the one `LinearOrder` provides).
-- `insertSorted` inserts before the first strictly larger element (`List.orderedInsert (· < ·)`); `<` is not total,
-- so Mathlib's sortedness of `insertionSort` does not apply and `≤`-sortedness is proved directly.
variable {α : Type} [LinearOrder α] [DecidableLT α]

theorem sortList_cons (x : α) (l : List α) : sortList (x :: l) = insertSorted x (sortList l) := rfl

theorem insertSorted_of_forall_le (x : α) (l : List α) (h : ∀ y ∈ l, x ≤ y) :
    insertSorted x l = x :: l := by
  induction l with
  | nil => rfl
  | cons y rest ih =>
    have hxy : x ≤ y := h y (by simp)
    by_cases hlt : x < y
    · simp [insertSorted, hlt]
    · have hyx : x = y := le_antisymm hxy (not_lt.mp hlt)
      subst hyx
      simp [insertSorted, ih (fun z hz => h z (by simp [hz]))]

theorem insertSorted_perm (x : α) (l : List α) : (insertSorted x l).Perm (x :: l) := by
  induction l with
  | nil => exact List.Perm.refl _
  | cons y rest ih =>
    by_cases hlt : x < y
    · simp [insertSorted, hlt]
    · simp only [insertSorted, hlt, if_false]
      exact (ih.cons y).trans (List.Perm.swap x y rest)

theorem insertSorted_pairwise (x : α) (l : List α) (h : l.Pairwise (· ≤ ·)) :
    (insertSorted x l).Pairwise (· ≤ ·) := by
  induction l with
  | nil => simp [insertSorted]
  | cons y rest ih =>
    rw [List.pairwise_cons] at h
    by_cases hlt : x < y
    · simp only [insertSorted, hlt, if_true]
      refine List.pairwise_cons.mpr ⟨?_, List.pairwise_cons.mpr h⟩
      intro z hz
      rcases List.mem_cons.mp hz with rfl | hz
      · exact hlt.le
      · exact hlt.le.trans (h.1 z hz)
    · simp only [insertSorted, hlt, if_false]
      refine List.pairwise_cons.mpr ⟨?_, ih h.2⟩
      intro z hz
      rcases List.mem_cons.mp ((insertSorted_perm x rest).mem_iff.mp hz) with rfl | hz
      · exact not_lt.mp hlt
      · exact h.1 z hz

theorem sortList_perm (l : List α) : (sortList l).Perm l := by
  induction l with
  | nil => exact List.Perm.refl _
  | cons x rest ih =>
    rw [sortList_cons]
    exact (insertSorted_perm x _).trans (ih.cons x)

theorem sortList_sorted (l : List α) : (sortList l).Pairwise (· ≤ ·) := by
  induction l with
  | nil => simp [sortList]
  | cons x rest ih =>
    rw [sortList_cons]
    exact insertSorted_pairwise x _ ih

/-- `ps.sort()` is the identity on a monotone list -/
theorem sortList_of_sorted {l : List α} (h : l.Pairwise (· ≤ ·)) : sortList l = l := by
  induction l with
  | nil => rfl
  | cons x rest ih =>
    rw [List.pairwise_cons] at h
    rw [sortList_cons, ih h.2, insertSorted_of_forall_le x rest h.1]

end SortList

/-- the noisy class's loss (`ps` sorted first) is the plain loss on a monotone cdf -/
theorem loss_sortList_of_sorted (n : Nat) (ks : List Nat) (ps : List ℝ) (h : ps.Pairwise (· ≤ ·)) :
    loss (fun k : Nat => (k : ℝ)) Real.log n ks (sortList ps)
      = loss (fun k : Nat => (k : ℝ)) Real.log n ks ps := by
  rw [sortList_of_sorted h]

theorem pairwise_quarters : ([0, 1/4, 1/2, 1] : List ℝ).Pairwise (· ≤ ·) :=
  List.isChain_iff_pairwise.mp
    (.cons_cons (by norm_num) (.cons_cons (by norm_num) (.cons_cons (by norm_num) (.singleton _))))

/-- the empirical frequencies themselves: loss `0` -/
example : loss (fun k : Nat => (k : ℝ)) Real.log 3 [1, 1, 2] [0, 1/4, 1/2, 1] = 0 := by
  refine (loss_eq_zero_iff_ps 3 [1, 1, 2] 0 [1/4, 1/2, 1] rfl rfl pairwise_quarters ?_ ?_).mpr ?_
  · simp only [diffs, List.zip_cons_cons, List.zip_nil_right, List.forall_mem_cons]
    norm_num
  · norm_num [List.getLastD]
  · simp only [diffs, List.zip_cons_cons, List.zip_nil_right, List.forall_mem_cons]
    norm_num

/-- other spacings, a bucket with `k = 0`: all hypotheses of Gibbs hold, and the loss is not `0` -/
example : 0 < lossZ 3 [2, 0, 2] [1/2, 1/4, 1/4] := by
  have hnn : ∀ d ∈ ([1/2, 1/4, 1/4] : List ℝ), 0 ≤ d := by
    simp only [List.forall_mem_cons]
    norm_num
  have hpos : ∀ p ∈ ([2, 0, 2] : List Nat).zip ([1/2, 1/4, 1/4] : List ℝ), 0 < p.1 → 0 < p.2 := by
    simp only [List.zip_cons_cons, List.zip_nil_right, List.forall_mem_cons]
    norm_num
  have h0 := loss_nonneg 3 [2, 0, 2] [1/2, 1/4, 1/4] rfl rfl hnn hpos (by norm_num)
  refine lt_of_le_of_ne h0 (fun h => ?_)
  have := (loss_eq_zero_iff 3 [2, 0, 2] [1/2, 1/4, 1/4] rfl rfl hnn hpos (by norm_num)).mp h.symm
    (0, 1/4) (by simp)
  norm_num at this

example : sortList ([0, 1/4, 1/2, 1] : List ℝ) = [0, 1/4, 1/2, 1] := sortList_of_sorted pairwise_quarters

end Opda.Fit

#print axioms Opda.Fit.loss_sumWhere_acc
#print axioms Opda.Fit.loss_eq_grouped_loglik
#print axioms Opda.Fit.loss_eq_grouped_loglik_ps
#print axioms Opda.Fit.loss_eq_kl
#print axioms Opda.Fit.loss_ge_one_sub_sum
#print axioms Opda.Fit.loss_nonneg
#print axioms Opda.Fit.loss_nonneg_ps
#print axioms Opda.Fit.loss_eq_zero_of_forall
#print axioms Opda.Fit.loss_eq_zero_iff
#print axioms Opda.Fit.loss_eq_zero_iff_ps
#print axioms Opda.Fit.lossZ_eq_lossR_partialSums
#print axioms Opda.Fit.sortList_of_sorted
#print axioms Opda.Fit.sortList_perm
#print axioms Opda.Fit.sortList_sorted
#print axioms Opda.Fit.loss_sortList_of_sorted

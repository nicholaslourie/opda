import OpdaModel.Lagrange
import Mathlib.LinearAlgebra.Lagrange
import Mathlib.Data.Real.Basic
import Mathlib.Tactic

/-!
The executable model of `lagrange_interpolate` (first barycentric form with the node fix-up, and the plain
Lagrange-basis sum) **is** Mathlib's `Lagrange.interpolate`, evaluated (`eval_eq_interpolate`, `lsum_eq_interpolate`;
DESIGN §3 plan item C18-T1), over any field and, for the rational model read in `ℝ`, through `map_interpolate`.
Uniqueness and independence of the node order follow from Mathlib's interpolant and are stated in `Props/C18.lean`.
-/

namespace Opda.Lagr
open Finset

theorem sumTo_eq {M : Type} [AddCommMonoid M] (n : ℕ) (f : ℕ → M) : sumTo n f = ∑ i ∈ range n, f i := by
  induction n with
  | zero => rfl
  | succ n ih => rw [sumTo, ih, Finset.sum_range_succ]

theorem prodTo_eq {M : Type} [CommMonoid M] (n : ℕ) (f : ℕ → M) : prodTo n f = ∏ i ∈ range n, f i := by
  induction n with
  | zero => rfl
  | succ n ih => rw [prodTo, ih, Finset.prod_range_succ]

theorem allTo_iff (n : ℕ) (p : ℕ → Bool) : allTo n p = true ↔ ∀ i, i < n → p i = true := by
  induction n with
  | zero => simp [allTo]
  | succ n ih =>
    simp only [allTo, Bool.and_eq_true, ih]
    constructor
    · rintro ⟨h1, h2⟩ i hi
      rcases Nat.lt_succ_iff_lt_or_eq.mp hi with h | h
      · exact h1 i h
      · subst h; exact h2
    · intro h
      exact ⟨fun i hi => h i (Nat.lt_succ_of_lt hi), h n (Nat.lt_succ_self n)⟩

section Nodes
variable {α : Type} [DecidableEq α]

/-- what `findNode` returns: a node equal to `x`, or `none` when `x` is off all nodes -/
theorem findNode_spec (n : ℕ) (v : ℕ → α) (x : α) :
    match findNode n v x with
    | some j => j < n ∧ v j = x
    | none => ∀ i, i < n → x ≠ v i := by
  induction n with
  | zero => exact fun i hi => absurd hi (Nat.not_lt_zero _)
  | succ n ih =>
    rw [findNode]
    split_ifs with hc
    · exact ⟨Nat.lt_succ_self _, hc⟩
    · cases hf : findNode n v x with
      | some j => rw [hf] at ih; exact ⟨Nat.lt_succ_of_lt ih.1, ih.2⟩
      | none =>
        rw [hf] at ih
        intro i hi
        rcases Nat.lt_succ_iff_lt_or_eq.mp hi with h | rfl
        exacts [ih i h, fun e => hc e.symm]

theorem distinct_injOn (n : ℕ) (v : ℕ → α) (h : distinct n v = true) :
    Set.InjOn v (range n : Finset ℕ) := by
  unfold distinct at h
  rw [allTo_iff] at h
  have key : ∀ i j, j < i → i < n → v j ≠ v i := by
    intro i j hji hin
    have := (allTo_iff i _).mp (h i hin) j hji
    simpa using this
  intro i hi j hj hij
  simp only [coe_range, Set.mem_Iio] at hi hj
  by_contra hne
  rcases Nat.lt_or_gt_of_ne hne with hlt | hgt
  · exact key j i hlt hj hij
  · exact key i j hgt hi hij.symm

end Nodes

section Generic
variable {F : Type} [Field F]

theorem prod_ite_erase (s : Finset ℕ) (i : ℕ) (g : ℕ → F) :
    ∏ j ∈ s, (if j = i then 1 else g j) = ∏ j ∈ s.erase i, g j := by
  rw [← Finset.filter_ne' s i, Finset.prod_filter]; simp only [ite_not]

theorem weight_eq (n : ℕ) (v : ℕ → F) (i : ℕ) :
    weight n v i = Lagrange.nodalWeight (range n) v i := by
  unfold weight Lagrange.nodalWeight
  rw [prodTo_eq, prod_ite_erase, one_div, Finset.prod_inv_distrib]

theorem basis_eq (n : ℕ) (v : ℕ → F) (i : ℕ) (x : F) :
    basis n v i x = Polynomial.eval x (Lagrange.basis (range n) v i) := by
  unfold basis Lagrange.basis Lagrange.basisDivisor
  rw [prodTo_eq, prod_ite_erase, Polynomial.eval_prod]
  refine Finset.prod_congr rfl fun j _ => ?_
  simp only [Polynomial.eval_mul, Polynomial.eval_C, Polynomial.eval_sub, Polynomial.eval_X]
  rw [div_eq_mul_inv, mul_comm]

theorem lsum_eq_interpolate (n : ℕ) (v r : ℕ → F) (x : F) :
    lsum n v r x = Polynomial.eval x (Lagrange.interpolate (range n) v r) := by
  unfold lsum
  rw [sumTo_eq, Lagrange.interpolate_apply, Polynomial.eval_finsetSum]
  refine Finset.sum_congr rfl fun i _ => ?_
  rw [Polynomial.eval_mul, Polynomial.eval_C, basis_eq]

theorem bary_eq_interpolate (n : ℕ) (v r : ℕ → F) (x : F) (hx : ∀ i ∈ range n, x ≠ v i) :
    bary n v r x = Polynomial.eval x (Lagrange.interpolate (range n) v r) := by
  rw [Lagrange.eval_interpolate_not_at_node r hx, Lagrange.eval_nodal]
  unfold bary
  rw [prodTo_eq, sumTo_eq]
  congr 1
  refine Finset.sum_congr rfl fun i _ => ?_
  rw [weight_eq, div_eq_mul_inv]
  ring

variable [DecidableEq F]

theorem eval_eq_interpolate (n : ℕ) (v r : ℕ → F) (hv : Set.InjOn v (range n : Finset ℕ)) (x : F) :
    Lagr.eval n v r x = Polynomial.eval x (Lagrange.interpolate (range n) v r) := by
  unfold Lagr.eval
  have hspec := findNode_spec n v x
  cases h : findNode n v x with
  | some j =>
    rw [h] at hspec
    simp only
    rw [← hspec.2, Lagrange.eval_interpolate_at_node r hv (mem_range.mpr hspec.1)]
  | none =>
    rw [h] at hspec
    simp only
    exact bary_eq_interpolate n v r x fun i hi => hspec i (mem_range.mp hi)

theorem eval_congr (n : ℕ) (v r r' : ℕ → F) (h : ∀ i, i < n → r i = r' i) (x : F) :
    Lagr.eval n v r x = Lagr.eval n v r' x := by
  unfold Lagr.eval
  have hspec := findNode_spec n v x
  cases hf : findNode n v x with
  | some j => rw [hf] at hspec; exact h j hspec.1
  | none =>
    simp only [bary, sumTo_eq]
    rw [Finset.sum_congr rfl fun j hj => by rw [h j (mem_range.mp hj)]]

end Generic

theorem natDegree_interpolate_le {F : Type} [Field F] (n : ℕ) (v r : ℕ → F)
    (hv : Set.InjOn v (range (n + 1) : Finset ℕ)) : (Lagrange.interpolate (range (n + 1)) v r).natDegree ≤ n := by
  have h := Lagrange.degree_interpolate_lt r hv
  rw [card_range] at h
  exact Polynomial.natDegree_le_of_degree_le (Order.le_of_lt_succ h)

/-- Interpolation commutes with field embeddings (by uniqueness: degree and node values are preserved);
this is how the rational model is read in `ℝ`. -/
theorem map_interpolate {F K : Type} [Field F] [Field K] (φ : F →+* K) (s : Finset ℕ) (v r : ℕ → F)
    (hv : Set.InjOn v s) :
    (Lagrange.interpolate s v r).map φ = Lagrange.interpolate s (fun i => φ (v i)) (fun i => φ (r i)) := by
  refine Lagrange.eq_interpolate_of_eval_eq _ (φ.injective.comp_injOn hv)
    ((Polynomial.degree_map_le).trans_lt (Lagrange.degree_interpolate_lt r hv)) fun i hi => ?_
  rw [Polynomial.eval_map_apply, Lagrange.eval_interpolate_at_node r hv hi]

theorem cast_injOn (n : ℕ) (v : ℕ → ℚ) (hv : Set.InjOn v (range n : Finset ℕ)) :
    Set.InjOn (fun i => (v i : ℝ)) (range n : Finset ℕ) :=
  Rat.cast_injective.comp_injOn hv

theorem cast_eval_eq_interpolate (n : ℕ) (v r : ℕ → ℚ) (hv : Set.InjOn v (range n : Finset ℕ)) (x : ℚ) :
    ((Lagr.eval n v r x : ℚ) : ℝ)
      = Polynomial.eval (x : ℝ)
          (Lagrange.interpolate (range n) (fun i => (v i : ℝ)) (fun i => (r i : ℝ))) := by
  rw [eval_eq_interpolate n v r hv]
  exact (Polynomial.eval_map_apply (Rat.castHom ℝ) x).symm.trans
    (congrArg _ (map_interpolate (Rat.castHom ℝ) _ v r hv))

end Opda.Lagr

import OpdaModel.Approx
import OpdaProofs.ExchangeMono
import Mathlib.Topology.Instances.ENNReal.Lemmas
import Mathlib.Tactic

/-!
Three parts, each in the namespace of the model terms it is about.  `Opda.Minimax`: the specification of C17, the
minimax (best uniform) error of degree-`n` polynomial approximation of `f` on `[l, r]`, as an extended non-negative
real (so that no boundedness side conditions are needed), with the two ways to bound it.  `Opda.Remez`: soundness
of the de la Vallée-Poussin alternation checker `Remez.checkAlt`.  `Opda.Knots`: the equal-error characterisation of
optimal knots for any error functional that grows with the interval, and the midpoint predicate of the knot search.
-/
namespace Opda.Minimax
open Polynomial

noncomputable def supErr (f : ℝ → ℝ) (q : ℝ[X]) (l r : ℝ) : ENNReal :=
  ⨆ x ∈ Set.Icc l r, ENNReal.ofReal |f x - q.eval x|

noncomputable def minimaxErr (n : ℕ) (f : ℝ → ℝ) (l r : ℝ) : ENNReal :=
  ⨅ q : ℝ[X], ⨅ _ : q.natDegree ≤ n, supErr f q l r

theorem le_minimaxErr (n : ℕ) (f : ℝ → ℝ) (l r e : ℝ)
    (h : ∀ q : ℝ[X], q.natDegree ≤ n → ∃ x, l ≤ x ∧ x ≤ r ∧ e ≤ |f x - q.eval x|) :
    ENNReal.ofReal e ≤ minimaxErr n f l r := by
  refine le_iInf₂ fun q hq => ?_
  obtain ⟨x, h1, h2, he⟩ := h q hq
  exact (ENNReal.ofReal_le_ofReal he).trans
    (le_iSup₂ (f := fun x (_ : x ∈ Set.Icc l r) => ENNReal.ofReal |f x - q.eval x|) x ⟨h1, h2⟩)

theorem minimaxErr_le (n : ℕ) (f : ℝ → ℝ) (l r B : ℝ) (p : ℝ[X]) (hp : p.natDegree ≤ n)
    (h : ∀ x, l ≤ x → x ≤ r → |f x - p.eval x| ≤ B) :
    minimaxErr n f l r ≤ ENNReal.ofReal B :=
  iInf₂_le_of_le p hp (iSup₂_le fun x hx => ENNReal.ofReal_le_ofReal (h x hx.1 hx.2))

end Opda.Minimax

namespace Opda.Remez
open Polynomial Opda.Lagr Finset Opda.Exchange

theorem checkAlt_sound (n : ℕ) (a b : ℚ) (rs pv flo fhi : List ℚ) (e : ℚ) (sgn : Bool)
    (h : checkAlt n a b rs pv flo fhi e sgn = true)
    (f : ℝ → ℝ)
    (hf : ∀ i, i < n + 2 → ((getR flo i : ℚ) : ℝ) ≤ f (getR rs i) ∧ f (getR rs i) ≤ ((getR fhi i : ℚ) : ℝ))
    (q : ℝ[X]) (hq : q.natDegree ≤ n) :
    ∃ x : ℝ, (a : ℝ) ≤ x ∧ x ≤ (b : ℝ) ∧ (e : ℝ) ≤ |f x - q.eval x| := by
  simp only [checkAlt, Bool.and_eq_true, decide_eq_true_eq, allTo_iff] at h
  obtain ⟨⟨⟨⟨_, ha⟩, hb⟩, hinc⟩, halt⟩ := h
  have hxQ : StrictMonoOn (getR rs) (Set.Iic (n + 1)) := strictMonoOn_of_succ n _ fun i hi => hinc i (by omega)
  have hx : StrictMonoOn (fun i => (getR rs i : ℝ)) (Set.Iic (n + 1)) := fun i hi j hj hij =>
    Rat.cast_lt.mpr (hxQ hi hj hij)
  have hv := injOn_of_strictMonoOn hxQ (n + 1) (by omega)
  -- the polynomial defined by the code's output, with sign `σ = ±1` as claimed by `sgn`
  obtain ⟨i, hi, hle⟩ := dvp_ordered hx (fun i => f (getR rs i)) _ q
    (natDegree_interpolate_le n _ (fun i => ((getR pv i : ℚ) : ℝ)) (cast_injOn (n + 1) _ hv)) hq e
    (if sgn then 1 else -1) (by split_ifs <;> simp) fun i hi => by
      have hc := halt i (by omega)
      obtain ⟨hf1, hf2⟩ := hf i (by omega)
      have hs : (if sgn then (1 : ℝ) else -1) * (-1) ^ i = if ((i % 2 == 0) == sgn) then 1 else -1 := by
        rw [← altSign_eq, altSign]; cases sgn <;> by_cases hp : i % 2 = 0 <;> simp [hp]
      rw [hs, ← cast_eval_eq_interpolate (n + 1) (getR rs) (getR pv) hv]
      split_ifs at hc ⊢
      · rw [one_mul]
        exact (Rat.cast_le.mpr (of_decide_eq_true hc)).trans (by rw [Rat.cast_sub]; exact sub_le_sub_right hf1 _)
      · rw [neg_one_mul, neg_sub]
        exact (Rat.cast_le.mpr (of_decide_eq_true hc)).trans (by rw [Rat.cast_sub]; exact sub_le_sub_left hf2 _)
  exact ⟨_, (Rat.cast_le.mpr ha).trans (hx.monotoneOn (Set.mem_Iic.mpr (Nat.zero_le _)) hi (Nat.zero_le _)),
    (hx.monotoneOn hi (Set.mem_Iic.mpr le_rfl) hi).trans (Rat.cast_le.mpr hb), hle⟩

end Opda.Remez

/-!
C18-T4, equal-error characterisation of optimal knots.  `err i l r` is the minimax error of the degree-`n_i` approximation on `[l, r]`; all that is used is that it grows
with the interval.
If every piece of the knot vector `K` has error at least `E`, then **every** other knot vector with the
same end points (and the same degree per piece) has a piece with error at least `E`; so a knot vector
whose pieces all have error exactly `E` minimises the worst-case error.
-/
namespace Opda.Knots

/-- error functionals with values in any preorder (e.g. `ℝ≥0∞`).  If no piece of `K'` reached `E`, every
right knot of `K'` would lie strictly left of that of `K` (induction along the pieces), the last included. -/
theorem equal_error_optimal_gen {β : Type} [Preorder β] (m : ℕ) (hm : 0 < m) (K K' : ℕ → ℝ)
    (err : ℕ → ℝ → ℝ → β) (E : β)
    (hmono : ∀ i l r l' r', l' ≤ l → r ≤ r' → err i l r ≤ err i l' r')
    (h0 : K' 0 ≤ K 0) (hend : K m ≤ K' m)
    (hK : ∀ i, i < m → E ≤ err i (K i) (K (i+1))) :
    ∃ i, i < m ∧ E ≤ err i (K' i) (K' (i+1)) := by
  by_contra hno
  push Not at hno
  have key : ∀ i, i ≤ m → K' i ≤ K i ∧ (0 < i → K' i < K i) := by
    intro i
    induction i with
    | zero => exact fun _ => ⟨h0, fun h => absurd h (lt_irrefl 0)⟩
    | succ i ih =>
      intro hi
      have hlt : K' (i+1) < K (i+1) := lt_of_not_ge fun hge =>
        hno i hi ((hK i hi).trans (hmono i _ _ _ _ (ih (Nat.le_of_succ_le hi)).1 hge))
      exact ⟨hlt.le, fun _ => hlt⟩
  exact absurd hend (not_le.mpr ((key m le_rfl).2 hm))

theorem equal_error_optimal (m : ℕ) (hm : 0 < m) (K K' : ℕ → ℝ) (err : ℕ → ℝ → ℝ → ℝ) (E : ℝ)
    (hmono : ∀ i l r l' r', l' ≤ l → r ≤ r' → err i l r ≤ err i l' r')
    (h0 : K' 0 ≤ K 0) (hend : K m ≤ K' m)
    (hK : ∀ i, i < m → E ≤ err i (K i) (K (i+1))) :
    ∃ i, i < m ∧ E ≤ err i (K' i) (K' (i+1)) :=
  equal_error_optimal_gen m hm K K' err E hmono h0 hend hK

#print axioms equal_error_optimal

section
variable {α : Type} [LinearOrder α]

/-- the predicate of `Bisect.MidOK` (true of `(lo+hi)/2` in an ordered field), for the knot search `knotSearch` -/
def MidOK (mid : α → α → α) : Prop := ∀ lo hi, lo ≤ hi → lo ≤ mid lo hi ∧ mid lo hi ≤ hi

end

end Opda.Knots

import OpdaModel.SortFirst
import Mathlib.Data.List.Perm.Basic
import Mathlib.Order.Defs.LinearOrder
import Mathlib.Tactic

/-!
# C16-T4: `sort_by_first` — the outputs are the inputs rearranged by one permutation that sorts the first

The model (`OpdaModel/SortFirst.lean`) computes `sorting = argsort(first)` (stable merge sort of the
index list) and gathers every array at `sorting`, exactly like the code.  `sorting` is a permutation of `0..n−1`, the
gathered first array is sorted, and the list of rows across the arrays is rearranged by that one permutation (each
single array: `Props/C16.lean`, `sort_each_permuted`).
-/
namespace Opda.SortFirstP
open Opda.SortFirst

variable {κ : Type}

theorem argsort_perm (le : κ → κ → Bool) (d : κ) (keys : List κ) :
    (argsort le d keys).Perm (List.range keys.length) := by
  unfold argsort; exact List.mergeSort_perm _ _

theorem argsort_sorted (le : κ → κ → Bool)
    (htrans : ∀ a b c, le a b = true → le b c = true → le a c = true)
    (htotal : ∀ a b, (le a b || le b a) = true) (d : κ) (keys : List κ) :
    List.Pairwise (fun p q => le p q = true) (gather d keys (argsort le d keys)) := by
  unfold gather argsort
  rw [List.pairwise_map]
  exact List.pairwise_mergeSort (le := fun i j => le (keys.getD i d) (keys.getD j d))
    (fun a b c => htrans _ _ _) (fun a b => htotal _ _) _

theorem map_getD_range (d : κ) (l : List κ) : (List.range l.length).map (fun i => l.getD i d) = l := by
  apply List.ext_getElem
  · simp
  · intro i h1 h2
    simp [List.getD_eq_getElem?_getD, List.getElem?_eq_getElem h2]

/-- one permutation for all arrays: the list of rows (tuples across the arrays) of
the output is the list of rows of the input, rearranged by the index permutation `argsort`. -/
theorem rows_perm (le : κ → κ → Bool) (d : κ) (keys : List κ) (cols : List (List κ)) :
    ((argsort le d keys).map fun i => cols.map fun c => c.getD i d).Perm
      ((List.range keys.length).map fun i => cols.map fun c => c.getD i d) :=
  (argsort_perm le d keys).map _

section linear
variable [LinearOrder κ]

theorem first_sorted (d : κ) (keys : List κ) :
    List.Pairwise (· ≤ ·) (gather d keys (argsort (fun a b => decide (a ≤ b)) d keys)) := by
  have := argsort_sorted (fun a b : κ => decide (a ≤ b))
    (fun a b c h1 h2 => by simp only [decide_eq_true_eq] at *; exact le_trans h1 h2)
    (fun a b => by simp only [Bool.or_eq_true, decide_eq_true_eq]; exact le_total a b) d keys
  simpa using this
end linear

#print axioms rows_perm
#print axioms first_sorted
end Opda.SortFirstP

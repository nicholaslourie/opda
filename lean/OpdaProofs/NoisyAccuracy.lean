import OpdaModel.NoisyFloat
import OpdaProofs.NoisyLogic
import OpdaProofs.NoisyReal
import OpdaProofs.NoisyConv
import OpdaProofs.BisectRobust
import OpdaProofs.NoisyTable
import OpdaProofs.NormalSpec
import Mathlib.Analysis.SpecialFunctions.Pow.Real
import Mathlib.Tactic

/-!
C07, accuracy clause, exact real arithmetic: **even `c`**, and **odd `c`** with the shipped table.  `NoisyConv.lean` proves
that for `c = 2k`, `k ≥ 1`, the model's series-regime cdf over `ℝ` is the Spec `cdfSpec` (both shapes), which is monotone,
`k/(b−a)`-Lipschitz and has Gaussian tails; `BisectRobust.lean` bounds the residual of a bisection on a function `ε`-close
to the Spec.  Here `ε = 0`: `|cdf(ppf q) − q| ≤ k(1+12s)/2^30 + Φ(−6)`, which is `≤ 1e-5` for `k ≤ 50`; the closed forms
of the noiseless and of the normal regime are exact inverses.  For odd `c` the model's cdf is within
`ε = 1.02·max_error(selected entry)` of the Spec (`NoisyTable.lean`) and the robust bisection gives `2ε + …`, which is
`≤ 1e-5` in the `(c, scale)` ranges of `cdf_ppf_odd_tolerance`.
-/
namespace Opda.Noisy
open Real

variable (T : List (ℕ × List (Entry ℝ))) (ninf pinf : ℝ)

/-- the Lipschitz constant times the final bracket width, plus the Gaussian mass beyond six standard deviations;
`q ∈ (0,1)` is where `ppf` returns the bisection result -/
theorem cdf_ppf_even_explicit (d : Params ℝ) (k : ℕ) (hk : 1 ≤ k) (hc : d.c = 2 * k)
    (hp : pointMass (realFns T ninf pinf) d = false) (h : regime (realFns T ninf pinf) d = .nothing)
    (q : ℝ) (hq0 : 0 < q) (hq1 : q < 1) :
    |cdf (realFns T ninf pinf) d (ppf (realFns T ninf pinf) d q) - q|
      ≤ (k:ℝ) * (1 + 12 * (d.o / (d.b - d.a))) / 2 ^ 30 + Phi (-6) := by
  have S : Series T ninf pinf d := ⟨hp, h⟩
  have := cdf_ppf_within_of_density S (by omega) 0
    (fun y _ _ => by rw [cdf_even_eq_cdfSpec S k hk hc, sub_self, abs_zero]) q hq0 hq1
  rwa [mul_zero, zero_add, hc, Nat.cast_mul, Nat.cast_ofNat, mul_div_cancel_left₀ _ two_ne_zero] at this

/-- **C07 accuracy clause, even `c ≤ 100`, exact real arithmetic, series regime** -/
theorem cdf_ppf_even (d : Params ℝ) (k : ℕ) (hk : 1 ≤ k) (hk50 : k ≤ 50) (hc : d.c = 2 * k)
    (hp : pointMass (realFns T ninf pinf) d = false) (h : regime (realFns T ninf pinf) d = .nothing)
    (q : ℝ) (hq0 : 0 < q) (hq1 : q < 1) :
    |cdf (realFns T ninf pinf) d (ppf (realFns T ninf pinf) d q) - q| ≤ 1e-5 := by
  have S : Series T ninf pinf d := ⟨hp, h⟩
  have hk' : (k:ℝ) ≤ 50 := by exact_mod_cast hk50
  have h1 : (k:ℝ) * (1 + 12 * (d.o / (d.b - d.a))) ≤ 50 * 121 :=
    mul_le_mul hk' S.width_le (add_nonneg zero_le_one (mul_nonneg (by norm_num) S.s_pos.le)) (by norm_num)
  have h2 : (k:ℝ) * (1 + 12 * (d.o / (d.b - d.a))) / 2 ^ 30 ≤ 50 * 121 / 2 ^ 30 :=
    div_le_div_of_nonneg_right h1 (by positivity)
  refine (cdf_ppf_even_explicit T ninf pinf d k hk hc hp h q hq0 hq1).trans
    ((add_le_add h2 Phi_neg_six_le).trans ?_)
  norm_num

/-- noiseless regime (`o < 1e-6 (b−a)`, including `o = 0 < b − a`), every `c ≥ 1`, both shapes: the closed forms of `ppf`
and `cdf` are exact inverses on `[0, 1]` -/
theorem cdf_ppf_noiseless (d : Params ℝ) (ho : 0 ≤ d.o) (hc : 0 < d.c)
    (hp : pointMass (realFns T ninf pinf) d = false) (h : regime (realFns T ninf pinf) d = .noiseless)
    (q : ℝ) (hq0 : 0 ≤ q) (hq1 : q ≤ 1) :
    cdf (realFns T ninf pinf) d (ppf (realFns T ninf pinf) d q) = q := by
  have hw : d.a < d.b := sub_pos.mp (noiseless_pos (realFns_lawful T ninf pinf) d ho h)
  rw [cdf_noiseless_eq_quad T ninf pinf d hw hp h, ppf_noiseless_eq_quad T ninf pinf d hp h]
  exact Opda.Quad.cdf_ppf ⟨d.a, d.b, d.c, d.convex⟩ hw hc q hq0 hq1

/-- normal regime (`o ≥ 10 (b−a)`), every `c`, both shapes: the closed forms `ppf q = mean + sd·Φ⁻¹(q)` and
`cdf y = Φ((y − mean)/sd)` are exact inverses on `(0,1)` -/
theorem cdf_ppf_normal (d : Params ℝ) (hab : d.a ≤ d.b)
    (hp : pointMass (realFns T ninf pinf) d = false) (h : regime (realFns T ninf pinf) d = .normal)
    (q : ℝ) (hq0 : 0 < q) (hq1 : q < 1) :
    cdf (realFns T ninf pinf) d (ppf (realFns T ninf pinf) d q) = q := by
  obtain ⟨h1, h2⟩ := (regime_normal_iff (realFns_lawful T ninf pinf) d).mp h
  have ho : 0 < d.o := by
    refine ((mul_nonneg (by norm_num) (sub_nonneg.mpr hab)).trans h1).lt_of_ne fun e => ?_
    -- `o = 0` forces `b − a ≤ 0`, i.e. the point mass
    have hba : d.b - d.a ≤ 0 := nonpos_of_mul_nonpos_right (h2.trans_eq e.symm) (by norm_num)
    exact Bool.false_ne_true (hp.symm.trans
      ((pointMass_iff (realFns_lawful T ninf pinf) d).mpr ⟨le_antisymm hab (sub_nonpos.mp hba), e.symm⟩))
  have hsd : 0 < (realFns T ninf pinf).sqrt (varOf (realFns T ninf pinf) d) := Real.sqrt_pos.mpr <| by
    rw [varOf_real]
    exact add_pos_of_pos_of_nonneg (mul_pos ho ho) (div_nonneg
      (mul_nonneg (mul_nonneg (mul_self_nonneg _) (by norm_num)) (Nat.cast_nonneg _))
      (mul_nonneg (mul_self_nonneg _) (add_nonneg (Nat.cast_nonneg _) (by norm_num))))
  rw [ppf_normal d q hp h, cdf_normal d _ hp h, realFns_n, realFns_n, Nat.cast_zero, Nat.cast_one,
    clip_of_mem q 0 1 hq0.le hq1.le, add_sub_cancel_left, mul_div_cancel_left₀ _ hsd.ne']
  exact Normal.Phi_PhiInv q hq0 hq1

/-- **C07 accuracy clause, even `c ≤ 100`, exact real arithmetic, all three regimes** (every `a ≤ b`, `o ≥ 0`
other than the point mass `a = b ∧ o = 0`, both shapes): `|cdf(ppf q) − q| ≤ 1e-5` for every `q ∈ (0,1)`. -/
theorem cdf_ppf_even_all (d : Params ℝ) (k : ℕ) (hk : 1 ≤ k) (hk50 : k ≤ 50) (hc : d.c = 2 * k) (hab : d.a ≤ d.b)
    (ho : 0 ≤ d.o) (hp : pointMass (realFns T ninf pinf) d = false) (q : ℝ) (hq0 : 0 < q) (hq1 : q < 1) :
    |cdf (realFns T ninf pinf) d (ppf (realFns T ninf pinf) d q) - q| ≤ 1e-5 := by
  cases h : regime (realFns T ninf pinf) d with
  | nothing => exact cdf_ppf_even T ninf pinf d k hk hk50 hc hp h q hq0 hq1
  | noiseless =>
    rw [cdf_ppf_noiseless T ninf pinf d ho (by omega) hp h q hq0.le hq1.le]; norm_num
  | normal =>
    rw [cdf_ppf_normal T ninf pinf d hab hp h q hq0 hq1]; norm_num

section odd
open Opda.Gen Opda.Table

/-- **odd `c ≥ 3` with a row, series regime, both shapes — the bisection on the non-monotone model cdf**; `e` is the entry
the scale `o/(b−a)` selects in the row of key `c`. -/
theorem cdf_ppf_odd_castTable (T : List (ℕ × List EntryQ)) (hs : structOK T = true)
    (hb : ∀ t ∈ allPieces T, PieceBound T t.1 t.2.1 t.2.2) {ninf pinf : ℝ} {d : Params ℝ}
    (S : Series (castTable T) ninf pinf d) (k : ℕ) (hk : 1 ≤ k) (hc : d.c = 2 * k + 1) (hkey : ∃ row ∈ T, row.1 = d.c) :
    ∃ row e, rowOf T d.c = some row ∧ selectR row.2 (d.o / (d.b - d.a)) = some e ∧
      ∀ q : ℝ, 0 < q → q < 1 →
        |cdf (realFns (castTable T) ninf pinf) d (ppf (realFns (castTable T) ninf pinf) d q) - q|
          ≤ 2 * (1.02 * (e.maxError : ℝ)) + ((d.c : ℝ) / 2) * (1 + 12 * (d.o / (d.b - d.a))) / 2 ^ 30 + Phi (-6) := by
  obtain ⟨row, e, hrow, he, hy⟩ := cdf_odd_castTable T hs hb S k hc hkey
  exact ⟨row, e, hrow, he, fun q hq0 hq1 => cdf_ppf_within_of_density S (by omega) _ (fun y _ _ => hy y) q hq0 hq1⟩

section tolerance
variable {ninf pinf : ℝ} {d : Params ℝ} (S : Series tableR ninf pinf d)
include S

/-- `121` bounds `1 + 12·o/(b−a)` (the scale is `< 10` in the series regime), `1/50000000` bounds `Φ(−6)` -/
theorem cdf_ppf_odd_of_tolOK (k : ℕ) (hk : 1 ≤ k) (hc : d.c = 2 * k + 1)
    (σmax bound : ℚ) (hchk : tolOK d.c σmax bound = true) (hσ : d.o / (d.b - d.a) < (σmax : ℝ))
    (q : ℝ) (hq0 : 0 < q) (hq1 : q < 1) :
    |cdf (realFns tableR ninf pinf) d (ppf (realFns tableR ninf pinf) d q) - q|
      ≤ 2 * (bound : ℝ) + (d.c : ℝ) / 2 * 121 / 2 ^ 30 + 1 / 50000000 := by
  obtain ⟨row, e, hrow, he, hq⟩ :=
    cdf_ppf_odd_castTable tableQ Cert.struct_ok Cert.table_bound S k hk hc (row_of_tolOK hchk)
  have hε := selected_le_of_tolOK d.c σmax bound hchk row hrow _ hσ e he
  have hL : (d.c : ℝ) / 2 * (1 + 12 * (d.o / (d.b - d.a))) / 2 ^ 30 ≤ (d.c : ℝ) / 2 * 121 / 2 ^ 30 :=
    div_le_div_of_nonneg_right (mul_le_mul_of_nonneg_left S.width_le (by positivity)) (by positivity)
  exact (hq q hq0 hq1).trans
    (add_le_add (add_le_add (mul_le_mul_of_nonneg_left hε zero_le_two) hL) Phi_neg_six_le)

end tolerance

/-- **the property's `1e-5` for odd `c`, where the proved bound reaches it** (series regime, shipped table, exact real
arithmetic, both shapes, every `q ∈ (0,1)`): `c = 9` at every scale of the regime; `c = 5` for `o/(b−a) < 1/5`;
`c = 3` for `o/(b−a) < 1/50`. -/
theorem cdf_ppf_odd_tolerance (ninf pinf : ℝ) (d : Params ℝ)
    (hp : pointMass (realFns tableR ninf pinf) d = false) (h : regime (realFns tableR ninf pinf) d = .nothing)
    (hcs : d.c = 9 ∨ (d.c = 5 ∧ d.o / (d.b - d.a) < 1 / 5) ∨ (d.c = 3 ∧ d.o / (d.b - d.a) < 1 / 50))
    (q : ℝ) (hq0 : 0 < q) (hq1 : q < 1) :
    |cdf (realFns tableR ninf pinf) d (ppf (realFns tableR ninf pinf) d q) - q| ≤ 1e-5 := by
  have S : Series tableR ninf pinf d := ⟨hp, h⟩
  have hchk := shipped_tolerance_check
  rw [Bool.and_eq_true, Bool.and_eq_true] at hchk
  obtain ⟨⟨c9, c5⟩, c3⟩ := hchk
  rcases hcs with hc | ⟨hc, hs⟩ | ⟨hc, hs⟩
  · refine (cdf_ppf_odd_of_tolOK S 4 (by norm_num) hc 10 _ (hc ▸ c9) (by push_cast; exact S.s_lt) q hq0 hq1).trans ?_
    rw [hc]; norm_num
  · refine (cdf_ppf_odd_of_tolOK S 2 (by norm_num) hc (1 / 5) _ (hc ▸ c5) (by push_cast; exact hs) q hq0 hq1).trans ?_
    rw [hc]; norm_num
  · refine (cdf_ppf_odd_of_tolOK S 1 (by norm_num) hc (1 / 50) _ (hc ▸ c3) (by push_cast; exact hs) q hq0 hq1).trans ?_
    rw [hc]; norm_num

end odd

end Opda.Noisy

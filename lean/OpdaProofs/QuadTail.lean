import OpdaModel.QuadTrap
import OpdaProofs.QuadTrap
import Mathlib.MeasureTheory.Integral.IntervalIntegral.Basic
import Mathlib.Tactic

/-!
C08-T4 (tail bookkeeping): for a function `G` that is `0` up to `lo` and `1` beyond `hi`,
`∫ (1[y>0] − G(y)) dy` over any window `[−M, M] ⊇ [lo, hi] ∪ {0}` (the integrand vanishes outside it)
is `max(0, lo) + min(0, hi) + ∫_lo^hi (1[y>0] − G(y)) dy` — the three terms of `valueCur`, the value with the integrand
`1[y>0] − Fⁿ` (/repo up to the parent of 867c66b).  `Props/C08.tail_terms` is the same identity with the origin shifted to `lo`:
the terms of `valueRep`, the value with the integrand `1 − Fⁿ` (/repo from 867c66b).

The position of `0` matters in one place only, `∫_a^b 1[y>0] = max 0 b − max 0 a`; the rest is additivity.
-/
namespace Opda.TrapLoop
open MeasureTheory intervalIntegral Set

theorem congr_on_Ioc {f g : ℝ → ℝ} {a b : ℝ} (hab : a ≤ b) (h : ∀ y ∈ Ioc a b, f y = g y)
    (hg : IntervalIntegrable g volume a b) :
    IntervalIntegrable f volume a b ∧ ∫ y in a..b, f y = ∫ y in a..b, g y := by
  rw [← uIoc_of_le hab] at h
  exact ⟨hg.congr fun y hy => (h y hy).symm, integral_congr_ae (.of_forall h)⟩

theorem tail_eq (lo hi : ℝ) : tail cast lo hi = max 0 lo + min 0 hi := by
  unfold tail cast
  rw [Nat.cast_zero]
  congr 1
  · split_ifs with h
    exacts [(max_eq_right h.le).symm, (max_eq_left (not_lt.mp h)).symm]
  · split_ifs with h
    exacts [(min_eq_right h.le).symm, (min_eq_left (not_lt.mp h)).symm]

theorem integral_ind {a b : ℝ} (hab : a ≤ b) :
    IntervalIntegrable (ind cast) volume a b ∧ ∫ y in a..b, ind cast y = max 0 b - max 0 a := by
  have cK : ∀ (K : ℝ) {a b : ℝ}, a ≤ b → (∀ y ∈ Ioc a b, ind cast y = K) →
      IntervalIntegrable (ind cast) volume a b ∧ ∫ y in a..b, ind cast y = (b - a) * K := fun K _ _ hab h => by
    simpa using congr_on_Ioc hab h intervalIntegrable_const
  rcases le_total 0 a with h | h
  · rw [max_eq_right h, max_eq_right (h.trans hab), ← mul_one (b - a)]
    exact cK 1 hab fun y hy => ind_pos y (h.trans_lt hy.1)
  · rcases le_total b 0 with h' | h'
    · rw [max_eq_left h, max_eq_left h', sub_zero, ← mul_zero (b - a)]
      exact cK 0 hab fun y hy => ind_nonpos y (hy.2.trans h')
    · have A := cK 0 h fun y hy => ind_nonpos y hy.2
      have B := cK 1 h' fun y hy => ind_pos y hy.1
      rw [max_eq_left h, max_eq_right h', ← integral_add_adjacent_intervals A.1 B.1, A.2, B.2]
      exact ⟨A.1.trans B.1, by ring⟩

theorem tail_bookkeeping (G : ℝ → ℝ) (lo hi M : ℝ) (hM1 : -M ≤ lo) (hM2 : hi ≤ M) (hM : 0 ≤ M)
    (hG0 : ∀ y, y ≤ lo → G y = 0) (hG1 : ∀ y, hi < y → G y = 1)
    (hint : IntervalIntegrable (fun y => ind cast y - G y) volume lo hi) :
    ∫ y in (-M)..M, (ind cast y - G y)
      = tail cast lo hi + ∫ y in lo..hi, (ind cast y - G y) := by
  -- left of `lo` the integrand is `1[y>0]`, right of `hi` it is `1[y>0] − 1`
  have L := congr_on_Ioc (f := fun y => ind cast y - G y) hM1 (fun y hy => by rw [hG0 y hy.2, sub_zero])
    (integral_ind hM1).1
  have R := congr_on_Ioc (f := fun y => ind cast y - G y) hM2 (fun y hy => by rw [hG1 y hy.1])
    ((integral_ind hM2).1.sub intervalIntegrable_const)
  rw [← integral_add_adjacent_intervals (L.1.trans hint) R.1, ← integral_add_adjacent_intervals L.1 hint,
    L.2, R.2, integral_sub (integral_ind hM2).1 intervalIntegrable_const, (integral_ind hM1).2,
    (integral_ind hM2).2, intervalIntegral.integral_const, tail_eq, max_eq_left (neg_nonpos.mpr hM),
    max_eq_right hM, smul_eq_mul, mul_one]
  linarith [min_add_max 0 hi]

end Opda.TrapLoop

import OpdaModel.Approx
import OpdaProofs.PolyBridge
import OpdaProofs.Lagrange
import OpdaProofs.Small
import Mathlib.Tactic

/-!
Soundness of the rational Taylor-shift range checker with adaptive bisection (`PolyQ.checkAd`), of the
a-posteriori interpolation check (`PolyQ.interpOK`) and the bridge `x = t²` to half-integer powers (DESIGN §3 plan
items C17-T4, C18-T3).  All statements quantify over **every real** point of the interval.

`evalQ_mulLin`, `evalQ_shift`, `bound_spec`, `checkIv_sound` are the `ℚ` twins of the `ℤ` lemmas `evalR_*`,
`bound_spec`, `checkIv_sound` of `PolyBridge.lean`: the model has two separate checkers (`PolyCheck.shift` on
`List Int` for the shipped table, `PolyQ.shift` on `List Rat` here), so each needs its own induction.
-/

namespace Opda.PolyQ
open Opda.PolyCheck (evalQ)
open Opda.Lagr

theorem absQ_eq (q : ℚ) : absQ q = |q| := Opda.Small.ite_neg_eq_abs q

theorem maxQ_eq (a b : ℚ) : maxQ a b = max a b := (max_def a b).symm

theorem cast_absQ (q : ℚ) : ((absQ q : ℚ) : ℝ) = |(q : ℝ)| := by rw [absQ_eq, Rat.cast_abs]

theorem cast_horner (cs : List ℚ) (x : ℚ) : ((horner cs x : ℚ) : ℝ) = evalQ cs (x : ℝ) := by
  induction cs with
  | nil => simp [horner, evalQ]
  | cons c p ih => simp only [horner, evalQ, ← ih]; push_cast; ring

theorem evalQ_mulLin (s0 : ℚ) (q : List ℚ) (carry : ℚ) (u : ℝ) :
    evalQ (mulLin s0 q carry) u = (carry : ℝ) + ((s0 : ℝ) + u) * evalQ q u := by
  induction q generalizing carry with
  | nil => simp [mulLin, evalQ]
  | cons x xs ih => simp only [mulLin, evalQ, ih]; push_cast; ring

/-- `mulLin` always emits its carry, so the `| [] => [c]` branch of the model's `shift` is dead -/
theorem mulLin_ne_nil (s0 : ℚ) (q : List ℚ) (carry : ℚ) : mulLin s0 q carry ≠ [] := by
  cases q <;> simp [mulLin]

theorem evalQ_shift (s0 : ℚ) (p : List ℚ) (u : ℝ) :
    evalQ (shift s0 p) u = evalQ p ((s0 : ℝ) + u) := by
  induction p with
  | nil => simp [shift, evalQ]
  | cons c p ih =>
    simp only [shift]
    have h := evalQ_mulLin s0 (shift s0 p) 0 u
    generalize hm : mulLin s0 (shift s0 p) 0 = m at h
    cases m with
    | nil => exact absurd hm (mulLin_ne_nil _ _ _)
    | cons hd tl =>
      -- `shift s0 (c :: p) = (hd + c) :: tl` with `hd :: tl = mulLin s0 (shift s0 p) 0`, whose value `h` gives
      simp only [evalQ] at h ⊢
      rw [Rat.cast_add, add_right_comm, h, ih, Rat.cast_zero, zero_add, add_comm]

theorem bound_spec (R : ℚ) (hR : 0 ≤ R) (A : List ℚ) (u : ℝ) (hu : |u| ≤ (R : ℝ)) :
    |evalQ A u| ≤ ((bound R A : ℚ) : ℝ) := by
  induction A with
  | nil => simp [evalQ, bound]
  | cons a as ih =>
    simp only [evalQ, bound]
    push_cast
    rw [cast_absQ]
    have hR' : (0 : ℝ) ≤ (R : ℝ) := by exact_mod_cast hR
    calc |(a:ℝ) + u * evalQ as u| ≤ |(a:ℝ)| + |u| * |evalQ as u| := (abs_add_le _ _).trans_eq (by rw [abs_mul])
      _ ≤ |(a:ℝ)| + (R:ℝ) * ((bound R as : ℚ) : ℝ) := add_le_add le_rfl (mul_le_mul hu ih (abs_nonneg _) hR')

theorem checkIv_sound (C : List ℚ) (B l r : ℚ) (h : checkIv C B l r = true)
    (s : ℝ) (hl : (l:ℝ) ≤ s) (hr : s ≤ (r:ℝ)) : |evalQ C s| ≤ (B:ℝ) := by
  simp only [checkIv, Bool.and_eq_true, decide_eq_true_eq] at h
  obtain ⟨hlr, hb⟩ := h
  -- with `m` the midpoint, `r − m = m − l`, so `[l, r]` is the ball of radius `r − m` around `m`
  have hm : (l + r) / 2 - l = r - (l + r) / 2 := by ring
  have hu : |s - (((l + r) / 2 : ℚ) : ℝ)| ≤ ((r - (l + r) / 2 : ℚ) : ℝ) := by
    refine abs_sub_le_iff.mpr ⟨?_, ?_⟩
    · rw [Rat.cast_sub]; exact sub_le_sub_right hr _
    · rw [← hm, Rat.cast_sub]; exact sub_le_sub_left hl _
  have h1 := bound_spec _ (by rw [← hm]; exact sub_nonneg.mpr (by linarith)) (shift ((l + r) / 2) C) _ hu
  rw [evalQ_shift, add_sub_cancel] at h1
  exact h1.trans (Rat.cast_le.mpr hb)

theorem checkAd_sound (C : List ℚ) (B : ℚ) (k : ℕ) (l r : ℚ) (h : checkAd C B k l r = true)
    (s : ℝ) (hl : (l:ℝ) ≤ s) (hr : s ≤ (r:ℝ)) : |evalQ C s| ≤ (B:ℝ) := by
  induction k generalizing l r with
  | zero => exact checkIv_sound C B l r h s hl hr
  | succ k ih =>
    simp only [checkAd, Bool.or_eq_true, Bool.and_eq_true] at h
    rcases h with h | ⟨_, h1, h2⟩
    · exact checkIv_sound C B l r h s hl hr
    · by_cases hs : s ≤ (((l + r) / 2 : ℚ) : ℝ)
      · exact ih l _ h1 hl hs
      · exact ih _ r h2 (le_of_lt (not_le.mp hs)) hr

theorem evalQ_map_neg (q : List ℚ) (x : ℝ) : evalQ (q.map (fun d => -d)) x = - evalQ q x := by
  induction q with
  | nil => simp [evalQ]
  | cons d q ih => simp only [List.map_cons, evalQ, ih]; push_cast; ring

theorem evalQ_sub (p q : List ℚ) (x : ℝ) : evalQ (sub p q) x = evalQ p x - evalQ q x := by
  induction p generalizing q with
  | nil => simp [sub, evalQ, evalQ_map_neg]
  | cons c p ih =>
    cases q with
    | nil => simp [sub, evalQ]
    | cons d q => simp only [sub, evalQ, ih q]; push_cast; ring

noncomputable def toPoly : List ℚ → Polynomial ℝ
  | [] => 0
  | c :: p => Polynomial.C (c : ℝ) + Polynomial.X * toPoly p

theorem eval_toPoly (cs : List ℚ) (x : ℝ) : (toPoly cs).eval x = evalQ cs x := by
  induction cs with
  | nil => simp [toPoly, evalQ]
  | cons c p ih => simp [toPoly, evalQ, ih]

theorem degree_toPoly_lt (cs : List ℚ) : (toPoly cs).degree < (cs.length : WithBot ℕ) := by
  induction cs with
  | nil => simp [toPoly]
  | cons c p ih =>
    rw [toPoly, List.length_cons, Nat.cast_succ]
    refine (Polynomial.degree_add_le _ _).trans_lt (max_lt ?_ ?_)
    · exact Polynomial.degree_C_le.trans_lt (by exact_mod_cast Nat.succ_pos p.length)
    · rw [mul_comm, Polynomial.degree_mul_X]; exact WithBot.add_lt_add_right WithBot.one_ne_bot ih

theorem natDegree_toPoly_le (cs : List ℚ) (n : ℕ) (h : cs.length ≤ n + 1) : (toPoly cs).natDegree ≤ n :=
  Polynomial.natDegree_le_of_degree_le
    (Order.le_of_lt_succ ((degree_toPoly_lt cs).trans_le (Nat.cast_le.2 h)))

theorem interpOK_sound (cs : List ℚ) (n : ℕ) (v r : ℕ → ℚ)
    (hv : Set.InjOn v (Finset.range n : Finset ℕ)) (h : interpOK cs n v r = true) :
    toPoly cs = Lagrange.interpolate (Finset.range n) (fun i => (v i : ℝ)) (fun i => (r i : ℝ)) := by
  simp only [interpOK, Bool.and_eq_true, decide_eq_true_eq] at h
  obtain ⟨hlen, hall⟩ := h
  rw [allTo_iff] at hall
  apply Lagrange.eq_interpolate_of_eval_eq _ (cast_injOn n v hv)
  · refine lt_of_lt_of_le (degree_toPoly_lt cs) ?_
    simp only [Finset.card_range]
    exact_mod_cast hlen
  · intro i hi
    have := hall i (Finset.mem_range.mp hi)
    simp only [decide_eq_true_eq] at this
    rw [eval_toPoly, ← cast_horner, this]

theorem halfPower_bound_of_checkAd (cs : List ℚ) (m2 k : ℕ) (B tl th klo khi : ℚ)
    (hcert : checkAd (gOf cs m2) B k tl th = true)
    (htl0 : 0 ≤ tl) (htl : tl ^ 2 ≤ klo) (hth0 : 0 ≤ th) (hth : khi ≤ th ^ 2)
    (x : ℝ) (hx1 : (klo : ℝ) ≤ x) (hx2 : x ≤ (khi : ℝ)) :
    |evalQ cs x - x ^ ((m2 : ℝ) / 2)| ≤ (B : ℝ) := by
  have htl' : ((tl : ℝ)) ^ 2 ≤ x := le_trans (by exact_mod_cast htl) hx1
  have hth' : x ≤ ((th : ℝ)) ^ 2 := hx2.trans (by exact_mod_cast hth)
  have hx0 : 0 ≤ x := (sq_nonneg _).trans htl'
  have hmain := checkAd_sound _ B k tl th hcert (Real.sqrt x)
    ((Real.le_sqrt (by exact_mod_cast htl0) hx0).mpr htl')
    (Real.sqrt_le_iff.mpr ⟨by exact_mod_cast hth0, hth'⟩)
  rwa [gOf, Opda.PolyCheck.evalQ_gOf, Real.sq_sqrt hx0, Opda.PolyCheck.sqrt_pow_eq_rpow x hx0 m2] at hmain

theorem round_err (Q cs : List ℚ) (a b : ℚ) (x : ℝ) (h1 : (a : ℝ) ≤ x) (h2 : x ≤ (b : ℝ)) :
    |evalQ Q x - evalQ cs x| ≤ ((bound (maxQ (absQ a) (absQ b)) (sub Q cs) : ℚ) : ℝ) := by
  rw [← evalQ_sub]
  refine bound_spec _ ?_ _ x ?_
  · rw [maxQ_eq, absQ_eq]; exact le_max_of_le_left (abs_nonneg a)
  · rw [maxQ_eq, absQ_eq, absQ_eq, Rat.cast_max, Rat.cast_abs, Rat.cast_abs]
    exact abs_le_max_abs_abs h1 h2

/-- what both certificates do after their range check: `g` is within `B − eps` of a list `Q` (the dyadic copy) and
`eps` bounds `|Q − cs|` on `[a, b]`, where `cs` passed the a-posteriori check `interpOK`, so is the interpolant -/
theorem cert_core (cs Q : List ℚ) (n : ℕ) (v r : ℕ → ℚ) (B a b : ℚ)
    (hv : Set.InjOn v (Finset.range n : Finset ℕ)) (hint : interpOK cs n v r = true)
    (x g : ℝ) (h1 : (a : ℝ) ≤ x) (h2 : x ≤ (b : ℝ))
    (hA : |g - evalQ Q x| ≤ ((B - bound (maxQ (absQ a) (absQ b)) (sub Q cs) : ℚ) : ℝ)) :
    |g - Polynomial.eval x
      (Lagrange.interpolate (Finset.range n) (fun i => (v i : ℝ)) (fun i => (r i : ℝ)))| ≤ (B : ℝ) := by
  rw [← interpOK_sound cs n v r hv hint, eval_toPoly]
  have hB := round_err Q cs a b x h1 h2
  push_cast at hA
  linarith [abs_sub_le g (evalQ Q x) (evalQ cs x)]

theorem certPoly_sound (n : ℕ) (v r : ℕ → ℚ) (cf : List ℚ) (B a b : ℚ) (depth S : ℕ)
    (hv : Set.InjOn v (Finset.range n : Finset ℕ))
    (h : certPoly n v r cf B a b depth S = true) (x : ℝ) (h1 : (a : ℝ) ≤ x) (h2 : x ≤ (b : ℝ)) :
    |evalQ cf x - Polynomial.eval x
      (Lagrange.interpolate (Finset.range n) (fun i => (v i : ℝ)) (fun i => (r i : ℝ)))| ≤ (B : ℝ) := by
  simp only [certPoly, Bool.and_eq_true] at h
  refine cert_core _ ((coeffs n v r).map (roundTo S)) n v r B a b hv h.1 x _ h1 h2 ?_
  rw [← evalQ_sub]
  exact checkAd_sound _ _ depth a b h.2 x h1 h2

end Opda.PolyQ

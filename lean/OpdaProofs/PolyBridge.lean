import OpdaModel.PolyCheck
import Mathlib.Analysis.SpecialFunctions.Pow.Real
import Mathlib.Analysis.SpecialFunctions.Sqrt
import Mathlib.Tactic

/-!
C19-T2 (the plan's clause, DESIGN §3): soundness of the model's integer Taylor-shift range checker `PolyCheck.checkAll`
(`checkAll_sound`; the shipped certificates are evaluated by the checker of `PolyPacked.lean` instead, `checkAll` by nobody) and
the bridge `x = t²` from a bound on the scaled integer polynomial to `|p(x) − x^(m2/2)| ≤ bound` on a whole knot interval
(`piece_bound_of_range`), which both checkers share.
-/
namespace Opda.PolyCheck

def evalR : List Int → ℝ → ℝ
  | [], _ => 0
  | c :: p, s => (c : ℝ) + s * evalR p s

def evalQ : List ℚ → ℝ → ℝ
  | [], _ => 0
  | c :: p, s => (c : ℝ) + s * evalQ p s

theorem evalR_mulLin (s0 : Int) (q : List Int) (carry : Int) (u : ℝ) :
    evalR (mulLin s0 q carry) u = (carry : ℝ) + ((s0 : ℝ) + u) * evalR q u := by
  induction q generalizing carry with
  | nil => simp [mulLin, evalR]
  | cons x xs ih => simp only [mulLin, evalR, ih]; push_cast; ring

theorem evalR_shift (s0 : Int) (p : List Int) (u : ℝ) :
    evalR (shift s0 p) u = evalR p ((s0 : ℝ) + u) := by
  induction p with
  | nil => simp [shift, evalR]
  | cons c p ih =>
    simp only [shift]
    have h := evalR_mulLin s0 (shift s0 p) 0 u
    generalize hm : mulLin s0 (shift s0 p) 0 = m at h
    cases m with
    -- `mulLin` never returns `[]`, so the `| [] => [c]` branch of the model's `shift` is dead
    | nil => cases hq : shift s0 p <;> simp [hq, mulLin] at hm
    | cons hd tl =>
      simp only [evalR] at h ⊢
      rw [ih] at h
      push_cast at h ⊢
      linarith

theorem bound_spec (R : Int) (hR : 0 ≤ R) (A : List Int) (u : ℝ) (hu : |u| ≤ R) :
    |evalR A u| ≤ (bound R A : ℝ) := by
  induction A with
  | nil => simp [evalR, bound]
  | cons a as ih =>
    simp only [evalR, bound]
    push_cast
    calc |(a:ℝ) + u * evalR as u| ≤ |(a:ℝ)| + |u * evalR as u| := abs_add_le _ _
      _ = |(a:ℝ)| + |u| * |evalR as u| := by rw [abs_mul]
      _ ≤ |(a:ℝ)| + (R:ℝ) * (bound R as : ℝ) := by
          have := mul_le_mul hu ih (abs_nonneg _) (by exact_mod_cast hR)
          linarith
      _ = _ := rfl

theorem checkIv_sound (C : List Int) (B l r : Int) (h : checkIv C B l r = true)
    (s : ℝ) (hl : (l:ℝ) ≤ s) (hr : s ≤ (r:ℝ)) : |evalR C s| ≤ (B:ℝ) := by
  simp only [checkIv, Bool.and_eq_true, decide_eq_true_eq] at h
  obtain ⟨⟨hlr, hmR⟩, hb⟩ := h
  set m := (l + r) / 2 with hm
  set R := r - m with hRdef
  have hR0 : 0 ≤ R := by omega
  have hu : |s - (m:ℝ)| ≤ (R:ℝ) := by
    rw [abs_le]
    constructor
    · have : ((m - l : Int) : ℝ) ≤ (R : ℝ) := by exact_mod_cast hmR
      push_cast at this; linarith
    · have : ((R : Int) : ℝ) = (r:ℝ) - (m:ℝ) := by rw [hRdef]; push_cast; ring
      linarith
  have h1 := bound_spec R hR0 (shift m C) (s - m) hu
  rw [evalR_shift] at h1
  have : (m:ℝ) + (s - m) = s := by ring
  rw [this] at h1
  exact h1.trans (by exact_mod_cast hb)

theorem checkAll_sound (C : List Int) (B : Int) (l : Int) (rest : List Int) (hne : rest ≠ [])
    (h : checkAll C B (l :: rest) = true) (s : ℝ) (hl : (l:ℝ) ≤ s)
    (hr : s ≤ ((rest.getLast hne : Int) : ℝ)) : |evalR C s| ≤ (B:ℝ) := by
  induction rest generalizing l with
  | nil => exact absurd rfl hne
  | cons c2 rest2 ih =>
    simp only [checkAll, Bool.and_eq_true] at h
    by_cases hs : s ≤ (c2:ℝ)
    · exact checkIv_sound C B l c2 h.1 s hl hs
    · cases rest2 with
      | nil =>
        simp only [List.getLast_singleton] at hr
        exact absurd hr hs
      | cons c3 rest3 =>
        have hne' : (c3 :: rest3) ≠ [] := by simp
        apply ih c2 hne' h.2 (le_of_lt (not_le.mp hs))
        simpa [List.getLast_cons hne'] using hr

theorem evalQ_interleave (cs : List ℚ) (t : ℝ) : evalQ (interleave cs) t = evalQ cs (t^2) := by
  induction cs with
  | nil => rfl
  | cons c rest ih => simp only [interleave, evalQ, ih]; push_cast; ring

theorem evalQ_subAt (k : ℕ) (l : List ℚ) (t : ℝ) : evalQ (subAt k l) t = evalQ l t - t^k := by
  induction k generalizing l with
  | zero => cases l <;> simp [subAt, evalQ]; ring
  | succ k ih =>
    cases l with
    | nil => simp only [subAt, evalQ, ih]; push_cast; simp; ring
    | cons c rest => simp only [subAt, evalQ, ih]; ring

theorem evalQ_gOf (cs : List ℚ) (m2 : ℕ) (t : ℝ) : evalQ (gOf cs m2) t = evalQ cs (t^2) - t^m2 := by
  unfold gOf; rw [evalQ_subAt, evalQ_interleave]

theorem evalQ_scaled (D : ℕ) (gq : List ℚ) (s : ℝ) :
    evalQ (scaled D gq) s = (2:ℝ)^((gq.length - 1) * D) * evalQ gq (s / 2^D) := by
  induction gq with
  | nil => simp [scaled, evalQ]
  | cons g rest ih =>
    simp only [scaled, evalQ, ih, List.length_cons, Nat.add_sub_cancel]
    push_cast
    cases rest with
    | nil => simp [evalQ]
    | cons g' rest' =>
      simp only [List.length_cons, Nat.add_sub_cancel]
      have h2 : (2:ℝ)^D ≠ 0 := pow_ne_zero _ (by norm_num)
      rw [show (rest'.length + 1) * D = rest'.length * D + D by ring, pow_add]
      field_simp

theorem evalR_of_scaleOK (D P : ℕ) (gq : List ℚ) (C : List Int) (h : scaleOK D P gq C = true) (s : ℝ) :
    evalR C s = (2:ℝ)^P * evalQ (scaled D gq) s := by
  simp only [scaleOK, decide_eq_true_eq] at h
  generalize scaled D gq = sg at h
  induction C generalizing sg with
  | nil =>
    cases sg with
    | nil => simp [evalR, evalQ]
    | cons a b => simp at h
  | cons c C ih =>
    cases sg with
    | nil => simp at h
    | cons a b =>
      simp only [List.map_cons, List.cons.injEq] at h
      obtain ⟨h1, h2⟩ := h
      simp only [evalR, evalQ, ih b h2]
      have : (c : ℝ) = (a : ℝ) * (2:ℝ)^P := by
        have := congrArg (fun q : ℚ => (q : ℝ)) h1
        simpa using this
      rw [this]; ring

theorem sqrt_pow_eq_rpow (x : ℝ) (hx : 0 ≤ x) (m2 : ℕ) : (Real.sqrt x)^m2 = x ^ ((m2 : ℝ) / 2) := by
  rw [Real.rpow_div_two_eq_sqrt _ hx, Real.rpow_natCast]

theorem piece_bound_of_range (cs : List ℚ) (m2 D P : ℕ) (C : List Int) (B sl sh : Int)
    (klo khi Bq : ℚ)
    (hscale : scaleOK D P (gOf cs m2) C = true)
    (hrange : ∀ s : ℝ, (sl : ℝ) ≤ s → s ≤ (sh : ℝ) → |evalR C s| ≤ (B : ℝ))
    (hsl : ((sl : ℚ))^2 ≤ klo * 4^D)
    (hsh0 : 0 ≤ sh) (hsh : khi * 4^D ≤ ((sh : Int) : ℚ)^2)
    (hB : (B : ℚ) ≤ Bq * 2^(P + ((gOf cs m2).length - 1) * D))
    (x : ℝ) (hx1 : (klo : ℝ) ≤ x) (hx2 : x ≤ (khi : ℝ)) :
    |evalQ cs x - x ^ ((m2 : ℝ) / 2)| ≤ (Bq : ℝ) := by
  have hsl' : ((sl : ℝ))^2 ≤ (klo : ℝ) * 4^D := by exact_mod_cast hsl
  have hsh' : (khi : ℝ) * 4^D ≤ ((sh : Int) : ℝ)^2 := by exact_mod_cast hsh
  have hB' : (B : ℝ) ≤ (Bq : ℝ) * 2^(P + ((gOf cs m2).length - 1) * D) := by exact_mod_cast hB
  have h4 : (0:ℝ) < 4^D := by positivity
  have hx0 : 0 ≤ x :=
    (nonneg_of_mul_nonneg_left ((sq_nonneg _).trans hsl') h4).trans hx1
  -- `s = √x · 2^D` lies between the end points because `s² = x · 4^D` does
  have h24 : ((2:ℝ)^D)^2 = 4^D := by rw [← pow_mul, mul_comm, pow_mul]; norm_num
  have hs : √x * 2^D = √(x * 4^D) := by
    rw [Real.sqrt_mul hx0, ← h24, Real.sqrt_sq (by positivity)]
  have hmain := hrange (√x * 2^D)
    (hs ▸ Real.le_sqrt_of_sq_le (hsl'.trans (mul_le_mul_of_nonneg_right hx1 h4.le)))
    (hs ▸ (Real.sqrt_le_left (by exact_mod_cast hsh0)).mpr
      ((mul_le_mul_of_nonneg_right hx2 h4.le).trans hsh'))
  -- `C(s) = 2^P · 2^(deg·D) · g(s / 2^D)` and `s / 2^D = √x`: the two powers of two cancel against `hB'`
  rw [evalR_of_scaleOK D P _ C hscale, evalQ_scaled, mul_div_cancel_right₀ _ (by positivity),
    evalQ_gOf, Real.sq_sqrt hx0, sqrt_pow_eq_rpow x hx0 m2, ← mul_assoc, ← pow_add, abs_mul,
    abs_of_pos (by positivity)] at hmain
  exact le_of_mul_le_mul_left ((hmain.trans hB').trans_eq (mul_comm _ _)) (by positivity)


theorem piece_bound (cs : List ℚ) (m2 D P : ℕ) (C : List Int) (B sl : Int) (rest : List Int)
    (hne : rest ≠ []) (klo khi Bq : ℚ)
    (hscale : scaleOK D P (gOf cs m2) C = true)
    (hcert : checkAll C B (sl :: rest) = true)
    (hsl0 : 0 ≤ sl) (hsl : ((sl : ℚ))^2 ≤ klo * 4^D)
    (hsh0 : 0 ≤ rest.getLast hne) (hsh : khi * 4^D ≤ ((rest.getLast hne : Int) : ℚ)^2)
    (hB : (B : ℚ) ≤ Bq * 2^(P + ((gOf cs m2).length - 1) * D))
    (x : ℝ) (hx1 : (klo : ℝ) ≤ x) (hx2 : x ≤ (khi : ℝ)) :
    |evalQ cs x - x ^ ((m2 : ℝ) / 2)| ≤ (Bq : ℝ) :=
  piece_bound_of_range cs m2 D P C B sl (rest.getLast hne) klo khi Bq hscale
    (fun s h1 h2 => checkAll_sound C B sl rest hne hcert s h1 h2) hsl hsh0 hsh hB x hx1 hx2

#print axioms piece_bound
end Opda.PolyCheck

import OpdaProofs.RectBand
import OpdaProofs.CdfOf

/-!
# The probability integral transform, and the coverage of the band for EVERY continuous distribution (C01)

`ν` a probability measure on `ℝ` with continuous distribution function `F t = ν (-∞, t]` (`cdfOf ν`, `CdfOf.lean`).  The law
of `F(Y)`, `Y ∼ ν`, is the uniform law on `[0,1]`, so for `n` independent draws `(F(Y₁), …, F(Yₙ))` is `n` independent uniforms,
and the probability that the band with level tables `L`, `U` contains `F` everywhere is `coverage α β` (`cdfPi_band`; the
uniform law itself is the case `F = unifCdf`).  The hypothesis means "no atoms"; the standard normal law satisfies it
(`CdfOf.lean`).
-/
namespace Opda.RectProbP
open Opda.RectProb Opda.Band MeasureTheory Set Filter Topology
open scoped Finset

/-- the distribution function of the uniform law on `[0,1]` -/
noncomputable def unifCdf (t : ℝ) : ℝ := max 0 (min t 1)

theorem unifCdf_cont : Continuous unifCdf := by unfold unifCdf; fun_prop

/-- for `t < 0` both sides are `0`: the set is `Icc 0 t = ∅` and `ENNReal.ofReal` of a negative number is `0` -/
theorem unif_Iic (t : ℝ) : ((volume : Measure ℝ).restrict (Icc 0 1)) (Iic t) = ENNReal.ofReal (min t 1) := by
  rw [Measure.restrict_apply measurableSet_Iic, ← Ici_inter_Iic, inter_left_comm, Iic_inter_Iic, Ici_inter_Iic,
    Real.volume_Icc, sub_zero]

theorem cdfOf_unif : cdfOf ((volume : Measure ℝ).restrict (Icc 0 1)) = unifCdf := by
  funext t
  rw [cdfOf, unif_Iic, ENNReal.toReal_ofReal', unifCdf, max_comm]

section pit
variable {ν : Measure ℝ} [IsProbabilityMeasure ν]

theorem sublevel_eq_Iic (hF : Continuous (cdfOf ν)) {t : ℝ} (ht1 : t < 1)
    (hne : {y | cdfOf ν y ≤ t}.Nonempty) :
    ∃ s, {y | cdfOf ν y ≤ t} = Iic s ∧ cdfOf ν s ≤ t := by
  have hclosed : IsClosed {y | cdfOf ν y ≤ t} := isClosed_le hF continuous_const
  have hbdd : BddAbove {y | cdfOf ν y ≤ t} := by
    obtain ⟨b, hb⟩ := ((cdfOf_tendsto_atTop ν).eventually (lt_mem_nhds ht1)).exists
    refine ⟨b, fun y hy => ?_⟩
    by_contra hlt
    exact absurd (lt_of_lt_of_le hb (le_trans (cdfOf_mono ν (not_le.mp hlt).le) hy)) (lt_irrefl _)
  have hmem := hclosed.csSup_mem hne hbdd
  refine ⟨sSup {y | cdfOf ν y ≤ t}, ?_, hmem⟩
  ext y
  constructor
  · intro hy; exact le_csSup hbdd hy
  · intro hy; exact le_trans (cdfOf_mono ν hy) hmem

theorem measure_sublevel (hF : Continuous (cdfOf ν)) {t : ℝ} (ht0 : 0 ≤ t) (ht1 : t < 1) :
    ν {y | cdfOf ν y ≤ t} = ENNReal.ofReal t := by
  rcases ht0.eq_or_lt with rfl | hpos
  · -- level `0`: the sub-level set is empty, or a half-line `(-∞, s]` with `F s ≤ 0`
    by_cases hne : {y | cdfOf ν y ≤ 0}.Nonempty
    · obtain ⟨s, hs, hle⟩ := sublevel_eq_Iic hF ht1 hne
      rw [hs, ← ofReal_cdfOf, le_antisymm hle (cdfOf_nonneg ν s)]
    · rw [Set.not_nonempty_iff_eq_empty.1 hne, measure_empty, ENNReal.ofReal_zero]
  · -- some `x` has `F x = t`; the sub-level set is `(-∞, s]` with `x ≤ s`, so `t = F x ≤ F s ≤ t`
    obtain ⟨x, hx⟩ := exists_cdfOf_eq ν hF hpos ht1
    obtain ⟨s, hs, hle⟩ := sublevel_eq_Iic hF ht1 ⟨x, hx.le⟩
    have hxs : x ∈ Iic s := hs ▸ (show x ∈ {y | cdfOf ν y ≤ t} from hx.le)
    rw [hs, ← ofReal_cdfOf, le_antisymm hle (hx ▸ cdfOf_mono ν hxs)]

/-- **probability integral transform**: the law of `F(Y)`, `Y ∼ ν`, is the uniform law on `[0,1]` (both sides agree on
every `(-∞, t]`: `measure_sublevel` for `0 ≤ t < 1`, trivially outside) -/
theorem pit_map (hF : Continuous (cdfOf ν)) :
    ν.map (cdfOf ν) = (volume : Measure ℝ).restrict (Icc 0 1) := by
  have : IsProbabilityMeasure (ν.map (cdfOf ν)) :=
    Measure.isProbabilityMeasure_map hF.measurable.aemeasurable
  refine Measure.ext_of_Iic _ _ fun t => ?_
  rw [Measure.map_apply hF.measurable measurableSet_Iic, unif_Iic]
  show ν {y | cdfOf ν y ≤ t} = _
  rcases lt_or_ge t 0 with hneg | ht0
  · rw [ENNReal.ofReal_of_nonpos ((min_le_left _ _).trans hneg.le), show {y | cdfOf ν y ≤ t} = ∅ from
      eq_empty_of_forall_notMem fun y hy => (hneg.trans_le (cdfOf_nonneg ν y)).not_ge hy, measure_empty]
  · rcases lt_or_ge t 1 with ht1 | ht1
    · rw [measure_sublevel hF ht0 ht1, min_eq_left ht1.le]
    · rw [min_eq_right ht1, show {y | cdfOf ν y ≤ t} = univ from
        eq_univ_of_forall fun y => (cdfOf_le_one ν y).trans ht1, measure_univ, ENNReal.ofReal_one]

theorem pit_pi (hF : Continuous (cdfOf ν)) (n : ℕ) :
    (Measure.pi fun _ : Fin n => ν).map (fun y i => cdfOf ν (y i)) = unifPi n := by
  -- the local instance that `Measure.pi_map_pi` needs
  have hsf : ∀ _ : Fin n, SigmaFinite (ν.map (cdfOf ν)) := fun _ => by rw [pit_map hF]; infer_instance
  rw [Measure.pi_map_pi (μ := fun _ : Fin n => ν) (f := fun _ => cdfOf ν)
    (fun _ => hF.measurable.aemeasurable)]
  unfold unifPi
  congr 1
  funext _
  exact pit_map hF

theorem measurable_cdfPi (hF : Continuous (cdfOf ν)) (n : ℕ) :
    Measurable fun (y : Fin n → ℝ) i => cdfOf ν (y i) :=
  measurable_pi_lambda _ fun i => hF.measurable.comp (measurable_pi_apply i)

theorem pi_cdf_preimage (hF : Continuous (cdfOf ν)) {n : ℕ} {s : Set (Fin n → ℝ)} (hs : MeasurableSet s) :
    (Measure.pi fun _ : Fin n => ν) ((fun y i => cdfOf ν (y i)) ⁻¹' s) = unifPi n s := by
  rw [← pit_pi hF n, Measure.map_apply (measurable_cdfPi hF n) hs]

end pit

section band

variable {ν : Measure ℝ} [IsProbabilityMeasure ν]

theorem ae_injective_cdf (hF : Continuous (cdfOf ν)) (n : ℕ) :
    ∀ᵐ y ∂(Measure.pi fun _ : Fin n => ν), Function.Injective (fun i => cdfOf ν (y i)) := by
  have h := ae_injective n
  rw [← pit_pi hF n] at h
  exact ae_of_ae_map (measurable_cdfPi hF n).aemeasurable h

/-- **coverage of the band for every continuous distribution**: for `n` independent draws from a probability measure
`ν` with continuous distribution function `F`, the probability that the band given by level tables `L`, `U` (with
`L 0 ≤ 0`, `1 ≤ U n`, `L (i+1) = αᵢ`, `U i = βᵢ`) contains `F` at every `t` is `coverage α β` -/
theorem cdfPi_band (hF : Continuous (cdfOf ν)) (alpha beta : List ℚ) (hlen : beta.length = alpha.length)
    (hα : ∀ x ∈ alpha, 0 ≤ x ∧ x ≤ 1) (hβ : ∀ x ∈ beta, 0 ≤ x ∧ x ≤ 1)
    (L U : ℕ → ℝ) (hL0 : L 0 ≤ 0) (hUn : 1 ≤ U alpha.length)
    (hL : ∀ i (h : i < alpha.length), L (i + 1) = ((alpha[i] : ℚ) : ℝ))
    (hU : ∀ i (h : i < beta.length), U i = ((beta[i] : ℚ) : ℝ)) :
    (Measure.pi fun _ : Fin alpha.length => ν) (BandEvF alpha.length (cdfOf ν) L U)
      = ENNReal.ofReal ((coverage alpha beta : ℚ) : ℝ) := by
  rw [← unifPi_rect alpha beta hlen hα hβ, ← pi_cdf_preimage hF (measurableSet_rect _ _)]
  apply measure_congr
  filter_upwards [ae_injective_cdf hF alpha.length] with y hinjF
  have hinj : Function.Injective y := fun a b hab => hinjF (by simp only [hab])
  -- at `y`: `y ∈ BandEvF …` iff `F ∘ y` lies in the rectangle whose bounds `L (i+1)`, `U i` are the levels `αᵢ`, `βᵢ`
  refine propext ((bandF_iff_rect L U hL0 hUn (cdfOf ν) (cdfOf_mono ν) hF (cdfOf_nonneg ν) (cdfOf_le_one ν) y
    hinj).trans (forall_congr' fun i => ?_))
  rw [hL i.val i.isLt, hU i.val (hlen.symm ▸ i.isLt)]
  rfl  -- `alpha.get i` is `alpha[i.val]`, `beta.get (i.cast _)` is `beta[i.val]`

end band

end Opda.RectProbP

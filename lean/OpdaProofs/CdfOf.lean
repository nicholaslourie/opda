import Mathlib.Probability.CDF
import Mathlib.Probability.Distributions.Gaussian.Real
import Mathlib.Topology.Order.LeftRightLim
import Mathlib.Tactic

/-!
`cdfOf ν t = ν(−∞,t]` for a measure `ν` on `ℝ`, and what every distribution function of a probability measure has:
monotone, values in `[0,1]`, limits `0` and `1`, continuous exactly when `ν` has no atoms (the standard normal law is an
instance), and a continuous one attains every level in `(0,1)`.  Used for the standard normal `Φ` (`NormalSpec.lean`) and
for the probability integral transform (`RectPIT.lean`).  No instance of the development is in
scope here, so that both can import it.
-/
namespace Opda.RectProbP
open MeasureTheory Set Filter Topology

noncomputable def cdfOf (ν : Measure ℝ) (t : ℝ) : ℝ := (ν (Iic t)).toReal

variable (ν : Measure ℝ) [IsProbabilityMeasure ν]

theorem cdfOf_eq_cdf : cdfOf ν = ⇑(ProbabilityTheory.cdf ν) := by
  funext t
  rw [ProbabilityTheory.cdf_eq_real]
  rfl

theorem cdfOf_mono : Monotone (cdfOf ν) := by
  rw [cdfOf_eq_cdf]; exact ProbabilityTheory.monotone_cdf ν

omit [IsProbabilityMeasure ν] in
theorem cdfOf_nonneg (t : ℝ) : 0 ≤ cdfOf ν t := ENNReal.toReal_nonneg

theorem cdfOf_le_one (t : ℝ) : cdfOf ν t ≤ 1 := by
  rw [cdfOf_eq_cdf]; exact ProbabilityTheory.cdf_le_one ν t

theorem ofReal_cdfOf (t : ℝ) : ENNReal.ofReal (cdfOf ν t) = ν (Iic t) :=
  ENNReal.ofReal_toReal (measure_ne_top ν _)

/-- the mass of `(x, y]` is the increment of the distribution function (`StieltjesFunction.measure_Ioc` for Mathlib's `cdf ν`) -/
theorem cdfOf_sub {x y : ℝ} (h : x ≤ y) : cdfOf ν y - cdfOf ν x = (ν (Ioc x y)).toReal := by
  have hm := (ProbabilityTheory.cdf ν).measure_Ioc x y
  rw [ProbabilityTheory.measure_cdf] at hm
  rw [hm, cdfOf_eq_cdf, ENNReal.toReal_ofReal (sub_nonneg.2 (ProbabilityTheory.monotone_cdf ν h))]

theorem cdfOf_tendsto_atBot : Tendsto (cdfOf ν) atBot (𝓝 0) := by
  rw [cdfOf_eq_cdf]; exact ProbabilityTheory.tendsto_cdf_atBot ν

theorem cdfOf_tendsto_atTop : Tendsto (cdfOf ν) atTop (𝓝 1) := by
  rw [cdfOf_eq_cdf]; exact ProbabilityTheory.tendsto_cdf_atTop ν

theorem cdfOf_continuous_of_nullSingleton [NullSingletonClass ν] : Continuous (cdfOf ν) := by
  rw [cdfOf_eq_cdf]
  refine continuous_iff_continuousAt.mpr fun x => ?_
  rw [(ProbabilityTheory.cdf ν).mono.continuousAt_iff_leftLim_eq_rightLim, (ProbabilityTheory.cdf ν).rightLim_eq]
  have h := (ProbabilityTheory.cdf ν).measure_singleton x
  rw [ProbabilityTheory.measure_cdf, measure_singleton, eq_comm, ENNReal.ofReal_eq_zero] at h
  exact le_antisymm ((ProbabilityTheory.cdf ν).mono.leftLim_le le_rfl) (by linarith)

/-- with the converse `cdfOf_continuous_of_nullSingleton`: the distribution function is continuous exactly for the
atomless laws -/
theorem nullSingleton_of_cdfOf_continuous (hF : Continuous (cdfOf ν)) : NullSingletonClass ν := by
  refine ⟨fun x => ?_⟩
  rw [cdfOf_eq_cdf] at hF
  have h := (ProbabilityTheory.cdf ν).measure_singleton x
  rw [ProbabilityTheory.measure_cdf] at h
  rw [h, ENNReal.ofReal_eq_zero, sub_nonpos]
  have := ((ProbabilityTheory.cdf ν).mono.continuousAt_iff_leftLim_eq_rightLim).mp (hF.continuousAt (x := x))
  rw [(ProbabilityTheory.cdf ν).rightLim_eq] at this
  exact this.ge

/-- a continuous distribution function attains every level in `(0,1)` (intermediate value theorem between its limits) -/
theorem exists_cdfOf_eq (hF : Continuous (cdfOf ν)) {q : ℝ} (h0 : 0 < q) (h1 : q < 1) : ∃ x, cdfOf ν x = q :=
  mem_range_of_exists_le_of_exists_ge hF
    (((cdfOf_tendsto_atBot ν).eventually (gt_mem_nhds h0)).exists.imp fun _ => le_of_lt)
    (((cdfOf_tendsto_atTop ν).eventually (lt_mem_nhds h1)).exists.imp fun _ => le_of_lt)

/-- non-vacuity of the continuity hypothesis: the standard normal law -/
theorem gaussian_cdfOf_continuous : Continuous (cdfOf (ProbabilityTheory.gaussianReal 0 1)) := by
  have := ProbabilityTheory.nullSingletonClass_gaussianReal (μ := 0) (v := 1) one_ne_zero
  exact cdfOf_continuous_of_nullSingleton _

end Opda.RectProbP

import OpdaModel.NoisyFloat
import OpdaProofs.Bisect
import Mathlib.Algebra.Order.Field.Basic
import Mathlib.Algebra.Order.AbsoluteValue.Basic
import Mathlib.Tactic

/-!
C07: the bisection of the executable model (`Opda.Noisy.bisect`, the term the driver runs inside
`Opda.Noisy.ppf`) *is* the generic `Bisect.run`.  Then the facts about `Bisect.run` with the arithmetic midpoint, which need an
ordered field (`Bisect.lean` is about any midpoint operator on a linear order): bracket width, where the final bracket lies, the
accuracy bound for a function that is within `ε` of a monotone Lipschitz one (`ε = 0`: for a monotone Lipschitz `F` itself).
-/
namespace Opda.Noisy

section order
variable {α : Type} [LinearOrder α]

theorem bisect_eq_run (f : α → α) (mid : α → α → α) (q : α) (k : Nat) (br : α × α) :
    bisect f mid q k br = Bisect.run f mid q k br := by
  induction k generalizing br with
  | zero => rfl
  | succ k ih =>
    obtain ⟨lo, hi⟩ := br
    simp only [bisect, Bisect.run]
    split_ifs <;> exact ih _

end order

section field
variable {α : Type} [Field α] [LinearOrder α] [IsStrictOrderedRing α]

theorem midOK_half : Bisect.MidOK (fun lo hi : α => (lo + hi) / 2) := fun lo hi h =>
  ⟨(add_self_div_two lo).symm.trans_le (div_le_div_of_nonneg_right (add_le_add_right h lo) zero_le_two),
   (div_le_div_of_nonneg_right (add_le_add_left h hi) zero_le_two).trans_eq (add_self_div_two hi)⟩

theorem run_width (f : α → α) (q : α) (k : Nat) (lo hi : α) :
    (Bisect.run f (fun lo hi => (lo + hi) / 2) q k (lo, hi)).2
      - (Bisect.run f (fun lo hi => (lo + hi) / 2) q k (lo, hi)).1 = (hi - lo) / 2 ^ k := by
  induction k generalizing lo hi with
  | zero => simp [Bisect.run]
  | succ k ih =>
    simp only [Bisect.run]
    split_ifs <;> rw [ih, pow_succ', ← div_div] <;> congr 1 <;> ring

theorem run_chain (f : α → α) (q : α) (k : Nat) (lo hi : α) (hlh : lo ≤ hi) :
    let br := Bisect.run f (fun lo hi => (lo + hi) / 2) q k (lo, hi)
    lo ≤ br.1 ∧ br.1 ≤ (br.1 + br.2) / 2 ∧ (br.1 + br.2) / 2 ≤ br.2 ∧ br.2 ≤ hi := by
  intro br
  obtain ⟨h1, h2, h3⟩ := Bisect.run_inside f (fun lo hi => (lo + hi) / 2) midOK_half q k lo hi hlh
  exact ⟨h1, (midOK_half br.1 br.2 h2).1, (midOK_half br.1 br.2 h2).2, h3⟩

/-- The bisection runs on `f`, the bound is on `g`.  The bisection only ever compares `f mid` with `q`, so it keeps
`f lo_j < q` (hence `g lo_j < q + ε`) and `q ≤ f hi_j` (hence `q − ε ≤ g hi_j`) for every end point that is not the initial
one; `g` being monotone and `L`-Lipschitz, the returned midpoint `y` has `|g y − q| ≤ ε + L·w + tail`, `w` the final
bracket width.  The last term (how far `q` lies outside `[g lo, g hi]`, i.e. the tail mass the bracket cuts off) vanishes
when `g lo ≤ q ≤ g hi`. -/
theorem run_accuracy_robust_spec (f g : α → α) (L ε q : α) (k : Nat) (lo hi : α) (hlh : lo ≤ hi)
    (hclose : ∀ x, lo ≤ x → x ≤ hi → |f x - g x| ≤ ε)
    (hmono : ∀ x y, lo ≤ x → x ≤ y → y ≤ hi → g x ≤ g y)
    (hlip : ∀ x y, lo ≤ x → x ≤ y → y ≤ hi → g y - g x ≤ L * (y - x)) :
    let br := Bisect.run f (fun lo hi => (lo + hi) / 2) q k (lo, hi)
    |g ((br.1 + br.2) / 2) - q| ≤ ε + L * ((hi - lo) / 2 ^ k) + max 0 (max (g lo - q) (q - g hi)) := by
  intro br
  obtain ⟨h1, m1, m2, h3⟩ := run_chain f q k lo hi hlh
  have hl : g br.2 - g br.1 ≤ L * ((hi - lo) / 2 ^ k) :=
    run_width f q k lo hi ▸ hlip br.1 br.2 h1 (m1.trans m2) h3
  obtain ⟨il, ih⟩ := Bisect.run_invariant f _ q k lo hi lo hi (Or.inl rfl) (Or.inl rfl)
  have hε0 : 0 ≤ ε := (abs_nonneg _).trans (hclose lo le_rfl hlh)
  generalize hE : max 0 (max (g lo - q) (q - g hi)) = E
  have hE0 : 0 ≤ E := hE ▸ le_max_left _ _
  -- the ends of the final bracket miss `q` by no more than the initial ends do, up to `ε`:
  -- an end that has moved was compared with `q` through `f`
  have el : g br.1 - q ≤ ε + E := by
    rcases il with e | e
    · rw [e, ← hE]; exact ((le_max_left _ _).trans (le_max_right _ _)).trans (le_add_of_nonneg_left hε0)
    · calc g br.1 - q = (g br.1 - f br.1) + (f br.1 - q) := (sub_add_sub_cancel _ _ _).symm
        _ ≤ ε + E := add_le_add (neg_sub (f br.1) (g br.1) ▸ neg_le.mp (abs_le.mp (hclose br.1 h1 ((m1.trans m2).trans h3))).1)
            ((sub_neg.mpr e).le.trans hE0)
  have eh : q - g br.2 ≤ ε + E := by
    rcases ih with e | e
    · rw [e, ← hE]; exact ((le_max_right _ _).trans (le_max_right _ _)).trans (le_add_of_nonneg_left hε0)
    · calc q - g br.2 = (f br.2 - g br.2) + (q - f br.2) := by ring
        _ ≤ ε + E := add_le_add (abs_le.mp (hclose br.2 (h1.trans (m1.trans m2)) h3)).2 ((sub_nonpos.mpr e).trans hE0)
  rw [abs_le', add_assoc, add_left_comm]
  constructor
  · calc g ((br.1 + br.2) / 2) - q ≤ g br.2 - q := sub_le_sub_right (hmono _ _ (h1.trans m1) m2 h3) q
      _ = g br.2 - g br.1 + (g br.1 - q) := (sub_add_sub_cancel _ _ _).symm
      _ ≤ _ := add_le_add hl el
  · calc -(g ((br.1 + br.2) / 2) - q) = q - g ((br.1 + br.2) / 2) := neg_sub _ _
      _ ≤ q - g br.1 := sub_le_sub_left (hmono _ _ h1 m1 (m2.trans h3)) q
      _ = g br.2 - g br.1 + (q - g br.2) := by ring
      _ ≤ _ := add_le_add hl eh

/-- the bound on `f`, the function the bisection ran on: one more `ε`, `|f y − q| ≤ |f y − g y| + |g y − q|` -/
theorem run_accuracy_robust (f g : α → α) (L ε q : α) (k : Nat) (lo hi : α) (hlh : lo ≤ hi)
    (hclose : ∀ x, lo ≤ x → x ≤ hi → |f x - g x| ≤ ε)
    (hmono : ∀ x y, lo ≤ x → x ≤ y → y ≤ hi → g x ≤ g y)
    (hlip : ∀ x y, lo ≤ x → x ≤ y → y ≤ hi → g y - g x ≤ L * (y - x)) :
    let br := Bisect.run f (fun lo hi => (lo + hi) / 2) q k (lo, hi)
    |f ((br.1 + br.2) / 2) - q| ≤ 2 * ε + L * ((hi - lo) / 2 ^ k) + max 0 (max (g lo - q) (q - g hi)) := by
  intro br
  obtain ⟨h1, m1, m2, h3⟩ := run_chain f q k lo hi hlh
  refine (abs_sub_le _ (g ((br.1 + br.2) / 2)) _).trans ?_
  rw [two_mul, add_assoc, add_assoc]
  exact add_le_add (hclose _ (h1.trans m1) (m2.trans h3))
    ((add_assoc ε _ _).symm ▸ run_accuracy_robust_spec f g L ε q k lo hi hlh hclose hmono hlip)

end field
end Opda.Noisy

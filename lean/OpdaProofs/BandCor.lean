import OpdaProofs.BandMore
import OpdaProofs.DkwEps
/-!
The level tables of the dkw / ks bands, `clip(i/n ∓ ε)`, and of the point estimate, `i/n`, as one family in the signed
radius; the weight of the unweighted sample below a point (for comparing `pt` with the band of the table `i/n`); and
the dkw tables as functions of the confidence.
-/
-- The two `variable` lines are the binders `band_lo_le_hi` is stated with; eight lemmas here use fewer of them
-- (mostly not `IsStrictOrderedRing α`), which this linter would report one by one.
set_option linter.unusedSectionVars false
namespace Opda.Band
open Opda.Emp
variable {E α : Type} [LinearOrder E] [Field α] [LinearOrder α] [IsStrictOrderedRing α]
variable [OrderBot E] [OrderTop E]

/-- `np.clip(x, 0, 1)` -/
def clip01 (x : α) : α := min (max x 0) 1

theorem clip01_of_nonpos {x : α} (h : x ≤ 0) : clip01 x = 0 := by
  rw [clip01, max_eq_right h, min_eq_left zero_le_one]

theorem clip01_of_one_le {x : α} (h : 1 ≤ x) : clip01 x = 1 := by
  rw [clip01, max_eq_left (zero_le_one.trans h), min_eq_right h]

theorem clip01_of_mem {x : α} (h0 : 0 ≤ x) (h1 : x ≤ 1) : clip01 x = x := by
  rw [clip01, max_eq_left h0, min_eq_left h1]

theorem clip01_mono {x y : α} (h : x ≤ y) : clip01 x ≤ clip01 y :=
  min_le_min (max_le_max h le_rfl) le_rfl

/-- `clip(arange(n+1)/n − ε, 0, 1)` -/
def loLevels (n : ℕ) (ε : α) : List α := (List.range (n + 1)).map fun i : ℕ => clip01 ((i : α) / (n : α) - ε)
/-- `clip(arange(n+1)/n + ε, 0, 1)` -/
def hiLevels (n : ℕ) (ε : α) : List α := (List.range (n + 1)).map fun i : ℕ => clip01 ((i : α) / (n : α) + ε)
/-- `arange(n+1)/n` -/
def ptLevels (n : ℕ) : List α := (List.range (n + 1)).map fun i : ℕ => (i : α) / (n : α)

theorem getD_map_range (f : ℕ → α) (m i : ℕ) :
    ((List.range m).map f).getD i 0 = if i < m then f i else 0 := by
  by_cases h : i < m <;> simp [List.getD_eq_getElem?_getD, h]

theorem getD_map_range_le {f g : ℕ → α} {m : ℕ} (h : ∀ i < m, f i ≤ g i) (i : ℕ) :
    ((List.range m).map f).getD i 0 ≤ ((List.range m).map g).getD i 0 := by
  rw [getD_map_range, getD_map_range]
  split_ifs with hi
  exacts [h i hi, le_rfl]

theorem natCast_div_mem_unit {i n : ℕ} (hi : i < n + 1) : 0 ≤ (i : α) / n ∧ (i : α) / n ≤ 1 :=
  ⟨div_nonneg i.cast_nonneg n.cast_nonneg,
    div_le_one_of_le₀ (Nat.mono_cast (Nat.lt_succ_iff.mp hi)) n.cast_nonneg⟩

theorem loLevels_length (n : ℕ) (ε : α) : (loLevels n ε).length = n + 1 := by
  rw [loLevels, List.length_map, List.length_range]
theorem hiLevels_length (n : ℕ) (ε : α) : (hiLevels n ε).length = n + 1 := by
  rw [hiLevels, List.length_map, List.length_range]
theorem ptLevels_length (n : ℕ) : (ptLevels (α := α) n).length = n + 1 := by
  rw [ptLevels, List.length_map, List.length_range]

/-- The three tables are one family: the upper table is the lower table of the opposite radius, the point estimate's
table that of radius 0.  Every comparison between them is `loLevels_anti`. -/
theorem hiLevels_eq (n : ℕ) (ε : α) : hiLevels n ε = loLevels n (-ε) := by
  simp only [hiLevels, loLevels, sub_neg_eq_add]

theorem ptLevels_eq (n : ℕ) : ptLevels n = loLevels n (0 : α) := by
  refine List.map_congr_left fun i hi => ?_
  have := natCast_div_mem_unit (α := α) (List.mem_range.mp hi)
  rw [sub_zero, clip01_of_mem this.1 this.2]

theorem loLevels_anti (n : ℕ) {ε ε' : α} (h : ε ≤ ε') (i : ℕ) :
    (loLevels n ε').getD i 0 ≤ (loLevels n ε).getD i 0 :=
  getD_map_range_le (fun _ _ => clip01_mono (sub_le_sub_left h _)) i

theorem loLevels_of_one_le (n : ℕ) {ε : α} (h : 1 ≤ ε) : loLevels n ε = List.replicate (n + 1) 0 := by
  refine List.eq_replicate_iff.mpr ⟨loLevels_length n ε, fun x hx => ?_⟩
  obtain ⟨i, hi, rfl⟩ := List.mem_map.mp hx
  exact clip01_of_nonpos (sub_nonpos.mpr ((natCast_div_mem_unit (List.mem_range.mp hi)).2.trans h))

theorem hiLevels_of_one_le (n : ℕ) {ε : α} (h : 1 ≤ ε) : hiLevels n ε = List.replicate (n + 1) 1 := by
  refine List.eq_replicate_iff.mpr ⟨hiLevels_length n ε, fun x hx => ?_⟩
  obtain ⟨i, hi, rfl⟩ := List.mem_map.mp hx
  exact clip01_of_one_le (h.trans (le_add_of_nonneg_left (natCast_div_mem_unit (List.mem_range.mp hi)).1))

theorem levels_le_of_radius_le {n : ℕ} {L U : List α} {δ δ' : α} (hL : L = loLevels n δ') (hU : U = loLevels n δ)
    (h : δ ≤ δ') (i : ℕ) : L.getD i 0 ≤ U.getD i 0 :=
  hL ▸ hU ▸ loLevels_anti n h i

theorem band_lo_le_hi (a b : E) (ys : List E) (t : E) {ε : α} (h : 0 ≤ ε) :
    cdf (support ⊥ ⊤ a b (bandObs a b ys (loLevels ys.length ε))) t
      ≤ cdf (support ⊥ ⊤ a b (bandObs a b ys (hiLevels ys.length ε))) t :=
  band_cdf_le_of_levels_le a b ys _ _ t (loLevels_length _ _) (hiLevels_length _ _)
    (levels_le_of_radius_le rfl (hiLevels_eq _ ε) (neg_le_self h))

/-- `ws=None`: every observation has weight 1 -/
theorem weightLE_unit (t : E) (ys : List E) :
    weightLE t (ys.map fun y => (y, (1 : α))) = ((ys.countP fun v => decide (v ≤ t) : ℕ) : α) := by
  induction ys with
  | nil => exact Nat.cast_zero.symm
  | cons y tl ih =>
    rw [List.map_cons, weightLE, ih, List.countP_cons, Nat.cast_add, Nat.cast_ite, Nat.cast_one, Nat.cast_zero,
      add_comm]
    simp only [decide_eq_true_eq]

/- `_dkw_band_weights(n, confidence)` is `clip(arange(n+1)/n ∓ ε, 0, 1)` with `ε = dkw_epsilon(n, confidence)`, which is
`sqrt(log(2/(1-confidence))/(2n))` for `confidence < 1` and `+∞` for `confidence = 1`.  With `ε = +∞` the tables are
`clip(−∞) = 0` and `clip(+∞) = 1` at every index: the trivial band.  Over a field there is no `+∞`; `dkwLo`/`dkwHi` below
return the all-0 / all-1 table at confidence 1, and `loLevels_of_one_le`/`hiLevels_of_one_le` show that this is the table
of *every* `ε ≥ 1` (so it is the limit table, not a convention). -/

noncomputable def dkwLo (n : ℕ) (c : ℝ) : List ℝ :=
  if c = 1 then List.replicate (n + 1) 0 else loLevels n (Opda.Dkw.eps n c)

noncomputable def dkwHi (n : ℕ) (c : ℝ) : List ℝ :=
  if c = 1 then List.replicate (n + 1) 1 else hiLevels n (Opda.Dkw.eps n c)

theorem dkwLo_of_lt_one (n : ℕ) {c : ℝ} (h : c < 1) : dkwLo n c = loLevels n (Opda.Dkw.eps n c) := if_neg h.ne
theorem dkwHi_of_lt_one (n : ℕ) {c : ℝ} (h : c < 1) : dkwHi n c = hiLevels n (Opda.Dkw.eps n c) := if_neg h.ne
theorem dkwLo_one (n : ℕ) : dkwLo n 1 = List.replicate (n + 1) 0 := if_pos rfl
theorem dkwHi_one (n : ℕ) : dkwHi n 1 = List.replicate (n + 1) 1 := if_pos rfl

/-- The tables of two confidences `c ≤ c'` in `[0,1]` are the `clip(i/n ∓ ·)` tables of two radii `δ ≤ δ'`, so that
widening in the confidence is widening in the radius (`loLevels_anti`).  The radii are given existentially because
confidence 1 has none of its own (`ε = +∞`): its tables are those of every radius `≥ 1`, and the proof takes
`max 1 (eps n c)`, which is `≥ 1` and `≥` the radius of the smaller confidence at once. -/
theorem exists_dkw_radii (n : ℕ) (hn : 0 < n) {c c' : ℝ} (hc0 : 0 ≤ c) (hcc : c ≤ c') (hc1 : c' ≤ 1) :
    ∃ δ δ' : ℝ, δ ≤ δ' ∧ (dkwLo n c = loLevels n δ ∧ dkwHi n c = hiLevels n δ)
      ∧ dkwLo n c' = loLevels n δ' ∧ dkwHi n c' = hiLevels n δ' := by
  have one {δ : ℝ} (h : 1 ≤ δ) : dkwLo n 1 = loLevels n δ ∧ dkwHi n 1 = hiLevels n δ := by
    rw [dkwLo_one, dkwHi_one, loLevels_of_one_le n h, hiLevels_of_one_le n h]; exact ⟨rfl, rfl⟩
  have lt {c : ℝ} (h : c < 1) :
      dkwLo n c = loLevels n (Opda.Dkw.eps n c) ∧ dkwHi n c = hiLevels n (Opda.Dkw.eps n c) :=
    ⟨dkwLo_of_lt_one n h, dkwHi_of_lt_one n h⟩
  rcases hc1.lt_or_eq with h1 | rfl
  · exact ⟨_, _, Opda.Dkw.eps_mono_c n c c' (Nat.cast_pos.mpr hn) hc0 hcc h1, lt (hcc.trans_lt h1), lt h1⟩
  · rcases hcc.lt_or_eq with h | rfl
    · exact ⟨_, _, le_max_right 1 _, lt h, one (le_max_left 1 (Opda.Dkw.eps n c))⟩
    · exact ⟨1, 1, le_rfl, one le_rfl, one le_rfl⟩

end Opda.Band

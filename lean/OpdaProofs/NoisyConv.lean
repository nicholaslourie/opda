import OpdaModel.NoisyFloat
import OpdaProofs.NoisyLogic
import OpdaProofs.NoisyReal
import Mathlib.MeasureTheory.Integral.IntervalIntegral.IntegrationByParts
import Mathlib.MeasureTheory.Integral.IntervalIntegral.FundThmCalculus
import Mathlib.Analysis.SpecialFunctions.Pow.Deriv
import Mathlib.Analysis.SpecialFunctions.Integrals.Basic
import Mathlib.Analysis.SpecialFunctions.Integrability.Basic
import Mathlib.Analysis.Calculus.Deriv.MeanValue
import Mathlib.Analysis.Real.Pi.Bounds
import Mathlib.Probability.Distributions.Gaussian.Real
import Mathlib.Tactic

/-!
C06-T2 and the Spec of C06 / C07.  For `X` on `[0, 1]` with distribution function `x ↦ x^p` (`p = c/2`; the normalised
noise-free law) and independent noise `s·N`, conditioning on `X` gives the *mixture form* of the law of `X + s·N`,

    H(t) = ∫₀¹ Φ((t − x)/s) · p x^{p−1} dx ,

which integration by parts (`u = Φ((t−x)/s)`, `v = x^p`) turns into the formula the implementation evaluates,

    H(t) = Φ((t − 1)/s) + ∫₀¹ x^p dN(t, s²)(x) ,

for every real `p > 0`.  `H` is a distribution function in `t`: monotone, with Gaussian tails and `0.4/s`-Lipschitz for every `p` —
these from the one fact that integrating against `d(x^p)` is monotone and has total mass one — and `p`-Lipschitz for
`p ≥ 1` (the weight is at most `p`, and the uniform law smoothed by the noise has a density `≤ 1`).  `cdfSpec d` is the Spec of both shapes, `H((y−a)/(b−a))` resp. `1 − H((b−y)/(b−a))`; the reflection of the
argument is handled once (`cdfSpec_sub`).  The model's series-regime cdf over `ℝ` differs from `cdfSpec` by no more than
its partial moment differs from `∫₀¹ x^{c/2} dN`: zero for even `c`, the approximation error of the selected pieces for
odd `c`.  Likewise the density.
-/
namespace Opda.Noisy
open MeasureTheory ProbabilityTheory intervalIntegral Real Set
open scoped NNReal ENNReal

theorem continuous_Phi_comp (s t : ℝ) : Continuous fun x : ℝ => Phi ((t - x) / s) := by
  have := Normal.Phi_continuous; fun_prop

theorem phiStd_le (x : ℝ) : phiStd x ≤ (√(2 * π))⁻¹ := by
  rw [Normal.phiStd_eq]
  exact mul_le_of_le_one_right (by positivity) (Real.exp_le_one_iff.mpr
    (div_nonpos_of_nonpos_of_nonneg (neg_nonpos.mpr (sq_nonneg x)) zero_le_two))

/-- `Φ` is `2/5`-Lipschitz (its derivative is the standard normal density, `≤ 1/√(2π) < 0.4`) -/
theorem Phi_lipschitz (u v : ℝ) (h : u ≤ v) : Phi v - Phi u ≤ 2 / 5 * (v - u) := by
  have hsq : (5 / 2 : ℝ) ≤ √(2 * π) := Real.le_sqrt_of_sq_le
    ((by norm_num : (5 / 2 : ℝ) ^ 2 ≤ 2 * 3.14).trans (mul_le_mul_of_nonneg_left Real.pi_gt_d2.le zero_le_two))
  have hK : (√(2 * π))⁻¹ ≤ 2 / 5 := by
    rw [inv_le_comm₀ (lt_of_lt_of_le (by norm_num) hsq) (by norm_num)]
    exact (by norm_num : ((2:ℝ) / 5)⁻¹ = 5 / 2).trans_le hsq
  exact image_sub_le_mul_sub_of_deriv_le (fun x => (Normal.hasDerivAt_Phi x).differentiableAt)
    (fun x => by rw [(Normal.hasDerivAt_Phi x).deriv]; exact (phiStd_le x).trans hK) h

theorem weight_intervalIntegrable {p : ℝ} (hp : 0 < p) :
    IntervalIntegrable (fun x : ℝ => p * x ^ (p - 1)) volume 0 1 :=
  (intervalIntegral.intervalIntegrable_rpow' (by linarith)).const_mul _

theorem integral_weight {p : ℝ} (hp : 0 < p) : ∫ x in (0:ℝ)..1, p * x ^ (p - 1) = 1 := by
  rw [intervalIntegral.integral_const_mul, integral_rpow (Or.inl (by linarith)), sub_add_cancel,
    Real.one_rpow, Real.zero_rpow hp.ne', sub_zero, mul_one_div_cancel hp.ne']

theorem integral_weight_mono {p : ℝ} (hp : 0 < p) {f g : ℝ → ℝ} (hf : Continuous f) (hg : Continuous g)
    (h : ∀ x ∈ Icc (0:ℝ) 1, f x ≤ g x) :
    ∫ x in (0:ℝ)..1, f x * (p * x ^ (p - 1)) ≤ ∫ x in (0:ℝ)..1, g x * (p * x ^ (p - 1)) :=
  intervalIntegral.integral_mono_on zero_le_one
    ((weight_intervalIntegrable hp).continuousOn_mul hf.continuousOn)
    ((weight_intervalIntegrable hp).continuousOn_mul hg.continuousOn)
    fun x hx => mul_le_mul_of_nonneg_right (h x hx) (mul_nonneg hp.le (Real.rpow_nonneg hx.1 _))

noncomputable def mixture (p s t : ℝ) : ℝ := ∫ x in (0:ℝ)..1, Phi ((t - x) / s) * (p * x ^ (p - 1))

/-- **C06-T2 `conv_identity`** for every `p = c/2 > 0` (so also `c = 1`, where the density `½ x^{−½}` of the
noise-free law is singular at `0`) -/
theorem conv_identity (p s t : ℝ) (hp : 0 < p) (hs : 0 < s) :
    mixture p s t = Phi ((t - 1) / s) + ∫ x in (0:ℝ)..1, x ^ p * dens t s x := by
  unfold mixture
  have hu : ∀ x ∈ Ioo (min (0:ℝ) 1) (max 0 1), HasDerivAt (fun x => Phi ((t - x) / s)) (-dens t s x) x := by
    intro x _
    have h1 : HasDerivAt (fun x : ℝ => (t - x) / s) (-1 / s) x := ((hasDerivAt_id' x).const_sub t).div_const s
    refine ((Normal.hasDerivAt_Phi ((t - x) / s)).comp x h1).congr_deriv ?_
    rw [dens, ← Normal.phiStd_neg ((t - x) / s), ← neg_div, neg_sub]; ring
  have hv : ∀ x ∈ Ioo (min (0:ℝ) 1) (max 0 1), HasDerivAt (fun x : ℝ => x ^ p) (p * x ^ (p - 1)) x := by
    intro x hx
    exact Real.hasDerivAt_rpow_const (Or.inl ((le_min le_rfl zero_le_one).trans_lt hx.1).ne')
  have hu' : IntervalIntegrable (fun x => -dens t s x) volume 0 1 :=
    (continuous_dens t s).neg.intervalIntegrable _ _
  have := intervalIntegral.integral_mul_deriv_eq_deriv_mul_of_hasDerivAt
    (u := fun x => Phi ((t - x) / s)) (v := fun x : ℝ => x ^ p)
    (continuous_Phi_comp s t).continuousOn (Real.continuous_rpow_const hp.le).continuousOn hu hv hu'
    (weight_intervalIntegrable hp)
  rw [this]
  have h0 : (0:ℝ) ^ p = 0 := Real.zero_rpow hp.ne'
  simp only [Real.one_rpow, mul_one, h0, mul_zero, sub_zero, neg_mul]
  rw [intervalIntegral.integral_neg, sub_neg_eq_add]
  congr 1
  exact intervalIntegral.integral_congr (fun x _ => mul_comm _ _)

theorem mixture_integrable {p : ℝ} (hp : 0 < p) (s t : ℝ) :
    IntervalIntegrable (fun x : ℝ => Phi ((t - x) / s) * (p * x ^ (p - 1))) volume 0 1 :=
  (weight_intervalIntegrable hp).continuousOn_mul (continuous_Phi_comp s t).continuousOn

theorem mixture_le_of_le {p s t B : ℝ} (hp : 0 < p) (h : ∀ x ∈ Icc (0:ℝ) 1, Phi ((t - x) / s) ≤ B) :
    mixture p s t ≤ B := by
  have := integral_weight_mono hp (continuous_Phi_comp s t) continuous_const h
  rwa [intervalIntegral.integral_const_mul, integral_weight hp, mul_one] at this

theorem le_mixture_of_le {p s t A : ℝ} (hp : 0 < p) (h : ∀ x ∈ Icc (0:ℝ) 1, A ≤ Phi ((t - x) / s)) :
    A ≤ mixture p s t := by
  have := integral_weight_mono hp continuous_const (continuous_Phi_comp s t) h
  rwa [intervalIntegral.integral_const_mul, integral_weight hp, mul_one] at this

theorem mixture_mem (p s t : ℝ) (hp : 0 < p) : 0 ≤ mixture p s t ∧ mixture p s t ≤ 1 :=
  ⟨le_mixture_of_le hp fun _ _ => Normal.Phi_nonneg _, mixture_le_of_le hp fun _ _ => Normal.Phi_le_one _⟩

theorem mixture_mono {p s : ℝ} (hp : 0 < p) (hs : 0 < s) {t t' : ℝ} (h : t ≤ t') : mixture p s t ≤ mixture p s t' :=
  integral_weight_mono hp (continuous_Phi_comp s t) (continuous_Phi_comp s t') fun x _ =>
    Normal.Phi_mono (div_le_div_of_nonneg_right (by linarith) hs.le)

/-- the tails: `r` noise scales left of the support `[0, 1]` of `X`, resp. right of it -/
theorem mixture_le_Phi {p s r : ℝ} (hp : 0 < p) (hs : 0 < s) {t : ℝ} (ht : t ≤ -r * s) : mixture p s t ≤ Phi (-r) :=
  mixture_le_of_le hp fun x hx => Normal.Phi_mono ((div_le_iff₀ hs).mpr (by linarith [hx.1]))

theorem Phi_le_mixture {p s r : ℝ} (hp : 0 < p) (hs : 0 < s) {t : ℝ} (ht : 1 + r * s ≤ t) :
    1 - Phi (-r) ≤ mixture p s t := by
  rw [show 1 - Phi (-r) = Phi r by rw [Normal.Phi_neg]; ring]
  exact le_mixture_of_le hp fun x hx => Normal.Phi_mono ((le_div_iff₀ hs).mpr (by linarith [hx.2]))

/-- a Lipschitz constant from the noise alone, so also for `c = 1`, where the density of `X` is unbounded: `Φ(·/s)` is
`0.4/s`-Lipschitz and the weight has total mass 1. -/
theorem mixture_lipschitz_noise {p s : ℝ} (hp : 0 < p) (hs : 0 < s) {t t' : ℝ} (h : t ≤ t') :
    mixture p s t' - mixture p s t ≤ 2 / 5 / s * (t' - t) := by
  have := integral_weight_mono hp (g := fun x => Phi ((t - x) / s) + 2 / 5 / s * (t' - t)) (continuous_Phi_comp s t')
    ((continuous_Phi_comp s t).add continuous_const) fun x _ => by
      exact sub_le_iff_le_add'.mp
        ((Phi_lipschitz _ _ (div_le_div_of_nonneg_right (sub_le_sub_right h x) hs.le)).trans_eq (by ring))
  simp only [add_mul] at this
  rw [intervalIntegral.integral_add (mixture_integrable hp s t) ((weight_intervalIntegrable hp).const_mul _),
    intervalIntegral.integral_const_mul, integral_weight hp, mul_one] at this
  exact sub_le_iff_le_add'.mpr this

/-- the uniform law smoothed by the noise has a density `≤ 1` -/
theorem uniform_smoothed_lipschitz (s t t' : ℝ) (h : t ≤ t') :
    ∫ x in (0:ℝ)..1, (Phi ((t' - x) / s) - Phi ((t - x) / s)) ≤ t' - t := by
  have hc : Continuous fun u : ℝ => Phi (u / s) := by
    have := Normal.Phi_continuous; fun_prop
  have hI : ∀ p q : ℝ, IntervalIntegrable (fun u : ℝ => Phi (u / s)) volume p q := fun p q =>
    hc.intervalIntegrable p q
  rw [intervalIntegral.integral_sub ((continuous_Phi_comp s t').intervalIntegrable _ _)
    ((continuous_Phi_comp s t).intervalIntegrable _ _)]
  have e1 : ∫ x in (0:ℝ)..1, Phi ((t' - x) / s) = ∫ u in (t' - 1)..(t' - 0), Phi (u / s) :=
    intervalIntegral.integral_comp_sub_left (fun u => Phi (u / s)) t'
  have e2 : ∫ x in (0:ℝ)..1, Phi ((t - x) / s) = ∫ u in (t - 1)..(t - 0), Phi (u / s) :=
    intervalIntegral.integral_comp_sub_left (fun u => Phi (u / s)) t
  rw [e1, e2, sub_zero, sub_zero]
  have a1 := intervalIntegral.integral_add_adjacent_intervals (hI (t - 1) t) (hI t t')
  have a2 := intervalIntegral.integral_add_adjacent_intervals (hI (t - 1) (t' - 1)) (hI (t' - 1) t')
  have u1 : ∫ u in t..t', Phi (u / s) ≤ ∫ _u in t..t', (1:ℝ) :=
    intervalIntegral.integral_mono_on h (hI _ _) (by simp) (fun u _ => Normal.Phi_le_one _)
  have u2 : 0 ≤ ∫ u in (t - 1)..(t' - 1), Phi (u / s) :=
    intervalIntegral.integral_nonneg (sub_le_sub_right h 1) (fun u _ => Normal.Phi_nonneg _)
  simp only [intervalIntegral.integral_const, smul_eq_mul, mul_one] at u1
  -- `a1`, `a2` split `∫_{t−1}^{t'}` in two ways: `∫_{t'−1}^{t'} − ∫_{t−1}^{t} = ∫_t^{t'} − ∫_{t−1}^{t'−1}`, and the first is `≤ t' − t`,
  -- the second `≥ 0`
  rw [sub_eq_sub_iff_add_eq_add.mpr (by rw [add_comm, a2, ← a1, add_comm] :
    (∫ u in (t' - 1)..t', Phi (u / s)) + ∫ u in (t - 1)..(t' - 1), Phi (u / s)
      = (∫ u in t..t', Phi (u / s)) + ∫ u in (t - 1)..t, Phi (u / s))]
  exact (sub_le_self _ u2).trans u1

/-- for `p ≥ 1` (`c ≥ 2`) the density `p x^{p−1}` of `X` is `≤ p` on `[0,1]`.  (For `p = ½`, `c = 1`, that density is
unbounded and the statement fails.) -/
theorem mixture_lipschitz {p s : ℝ} (hp : 1 ≤ p) (hs : 0 < s) {t t' : ℝ} (h : t ≤ t') :
    mixture p s t' - mixture p s t ≤ p * (t' - t) := by
  have hp0 : 0 < p := by linarith
  unfold mixture
  rw [← intervalIntegral.integral_sub (mixture_integrable hp0 s t') (mixture_integrable hp0 s t)]
  have hd : Continuous fun x : ℝ => Phi ((t' - x) / s) - Phi ((t - x) / s) :=
    (continuous_Phi_comp s t').sub (continuous_Phi_comp s t)
  refine (intervalIntegral.integral_mono_on zero_le_one
    ((mixture_integrable hp0 s t').sub (mixture_integrable hp0 s t))
    ((hd.const_mul p).intervalIntegrable _ _) fun x hx => ?_).trans ?_
  · have hg : 0 ≤ Phi ((t' - x) / s) - Phi ((t - x) / s) :=
      sub_nonneg.mpr (Normal.Phi_mono (div_le_div_of_nonneg_right (by linarith) hs.le))
    have hw : p * x ^ (p - 1) ≤ p := mul_le_of_le_one_right hp0.le (Real.rpow_le_one hx.1 hx.2 (by linarith))
    rw [← sub_mul]
    exact (mul_le_mul_of_nonneg_left hw hg).trans_eq (mul_comm _ _)
  · rw [intervalIntegral.integral_const_mul]
    exact mul_le_mul_of_nonneg_left (uniform_smoothed_lipschitz s t t' h) hp0.le

/-- the Spec of the cdf in both shapes: the mixture form of the law of `a + (b−a)X + E` resp. `b − (b−a)X + E` at `y`,
`X` on `[0,1]` with distribution function `x^{c/2}` -/
noncomputable def cdfSpec (d : Params ℝ) (y : ℝ) : ℝ :=
  if d.convex then mixture ((d.c : ℝ) / 2) (d.o / (d.b - d.a)) ((y - d.a) / (d.b - d.a))
  else 1 - mixture ((d.c : ℝ) / 2) (d.o / (d.b - d.a)) ((d.b - y) / (d.b - d.a))

section spec
variable (d : Params ℝ)

theorem cdfSpec_convex {d : Params ℝ} (h : d.convex = true) (y : ℝ) :
    cdfSpec d y = mixture ((d.c : ℝ) / 2) (d.o / (d.b - d.a)) ((y - d.a) / (d.b - d.a)) := by
  rw [cdfSpec, if_pos h]

theorem cdfSpec_concave {d : Params ℝ} (h : d.convex = false) (y : ℝ) :
    cdfSpec d y = 1 - mixture ((d.c : ℝ) / 2) (d.o / (d.b - d.a)) ((d.b - y) / (d.b - d.a)) := by
  rw [cdfSpec, if_neg (by simp [h])]

theorem cdfSpec_mem (hc : 0 < d.c) (y : ℝ) : 0 ≤ cdfSpec d y ∧ cdfSpec d y ≤ 1 := by
  have hp : (0:ℝ) < (d.c : ℝ) / 2 := by positivity
  unfold cdfSpec
  split_ifs
  · exact mixture_mem _ _ _ hp
  · obtain ⟨h0, h1⟩ := mixture_mem ((d.c : ℝ) / 2) (d.o / (d.b - d.a)) ((d.b - y) / (d.b - d.a)) hp
    exact ⟨sub_nonneg.mpr h1, sub_le_self _ h0⟩

/-- the two shapes differ by a reflection of the argument: an increment of the Spec over `[x, y]` is an increment of `H` over
an interval of length `(y − x)/(b − a)` -/
theorem cdfSpec_sub (hw : 0 < d.b - d.a) {x y : ℝ} (hxy : x ≤ y) :
    ∃ t t', t ≤ t' ∧ t' - t = (y - x) / (d.b - d.a) ∧
      cdfSpec d y - cdfSpec d x
        = mixture ((d.c : ℝ) / 2) (d.o / (d.b - d.a)) t' - mixture ((d.c : ℝ) / 2) (d.o / (d.b - d.a)) t := by
  have hle : ∀ u v : ℝ, u ≤ v → u / (d.b - d.a) ≤ v / (d.b - d.a) := fun u v h => div_le_div_of_nonneg_right h hw.le
  unfold cdfSpec
  cases d.convex
  · exact ⟨(d.b - y) / (d.b - d.a), (d.b - x) / (d.b - d.a), hle _ _ (by linarith), by ring, by simp⟩
  · exact ⟨(x - d.a) / (d.b - d.a), (y - d.a) / (d.b - d.a), hle _ _ (by linarith), by ring, by simp⟩

theorem cdfSpec_mono (hw : 0 < d.b - d.a) (ho : 0 < d.o) (hc : 0 < d.c) {x y : ℝ} (hxy : x ≤ y) :
    cdfSpec d x ≤ cdfSpec d y := by
  obtain ⟨t, t', ht, -, e⟩ := cdfSpec_sub d hw hxy
  exact sub_nonneg.mp ((sub_nonneg.mpr
    (mixture_mono (p := (d.c : ℝ) / 2) (by positivity) (div_pos ho hw) ht)).trans e.ge)

/-- `(c/2)/(b−a)` is the sup of the noise-free density; convolution keeps it -/
theorem cdfSpec_lipschitz (hw : 0 < d.b - d.a) (ho : 0 < d.o) (hc : 2 ≤ d.c) {x y : ℝ} (hxy : x ≤ y) :
    cdfSpec d y - cdfSpec d x ≤ ((d.c : ℝ) / 2) / (d.b - d.a) * (y - x) := by
  obtain ⟨t, t', ht, hd, e⟩ := cdfSpec_sub d hw hxy
  rw [e]
  refine (mixture_lipschitz ((one_le_div two_pos).mpr (by exact_mod_cast hc)) (div_pos ho hw) ht).trans_eq ?_
  rw [hd]; ring

theorem cdfSpec_lipschitz_noise (hw : 0 < d.b - d.a) (ho : 0 < d.o) (hc : 0 < d.c) {x y : ℝ} (hxy : x ≤ y) :
    cdfSpec d y - cdfSpec d x ≤ 2 / 5 / d.o * (y - x) := by
  obtain ⟨t, t', ht, hd, e⟩ := cdfSpec_sub d hw hxy
  rw [e]
  refine (mixture_lipschitz_noise (p := (d.c : ℝ) / 2) (by positivity) (div_pos ho hw) ht).trans_eq ?_
  rw [hd]; field_simp

/-- the tails of the Spec at the two ends of the bisection bracket `[a − 6o, b + 6o]` -/
theorem cdfSpec_tails (hw : 0 < d.b - d.a) (ho : 0 < d.o) (hc : 0 < d.c) :
    cdfSpec d (d.a - 6 * d.o) ≤ Phi (-6) ∧ 1 - Phi (-6) ≤ cdfSpec d (d.b + 6 * d.o) := by
  have hp : (0:ℝ) < (d.c : ℝ) / 2 := by positivity
  have hs := div_pos ho hw
  -- after `unfold cdfSpec` the argument of `mixture` is, in each shape, a different term `ring`-equal to `−6o/(b−a)` resp.
  -- `(b − a + 6o)/(b−a)`: hence the two bounds for any numerator `u` equal to those
  have lo : ∀ u : ℝ, u = -6 * d.o → mixture ((d.c : ℝ) / 2) (d.o / (d.b - d.a)) (u / (d.b - d.a)) ≤ Phi (-6) :=
    fun u hu => mixture_le_Phi hp hs (by rw [hu]; exact (mul_div_assoc _ _ _).le)
  have hi : ∀ u : ℝ, u = d.b - d.a + 6 * d.o →
      1 - Phi (-6) ≤ mixture ((d.c : ℝ) / 2) (d.o / (d.b - d.a)) (u / (d.b - d.a)) :=
    fun u hu => Phi_le_mixture hp hs (by rw [hu, add_div, div_self hw.ne', mul_div_assoc])
  unfold cdfSpec
  cases d.convex
  · simp only [Bool.false_eq_true, if_false]
    exact ⟨sub_le_comm.mp (hi (d.b - (d.a - 6 * d.o)) (by ring)),
      sub_le_sub_left (lo (d.b - (d.b + 6 * d.o)) (by ring)) 1⟩
  · exact ⟨lo _ (by ring), hi _ (by ring)⟩

/-- the Spec in the form the code evaluates (`conv_identity`, and `Φ(−z) = 1 − Φ(z)` for the concave shape) -/
theorem cdfSpec_eq_formula (hw : 0 < d.b - d.a) (ho : 0 < d.o) (hc : 0 < d.c) (y : ℝ) :
    cdfSpec d y = if d.convex
      then Phi ((y - d.b) / d.o) + ∫ x in (0:ℝ)..1, x ^ ((d.c : ℝ) / 2) * dens (locOf d y) (d.o / (d.b - d.a)) x
      else Phi ((y - d.a) / d.o) - ∫ x in (0:ℝ)..1, x ^ ((d.c : ℝ) / 2) * dens (locOf d y) (d.o / (d.b - d.a)) x := by
  have hp : (0:ℝ) < (d.c : ℝ) / 2 := by positivity
  unfold cdfSpec locOf
  cases d.convex
  · have e : (y - d.a) / d.o = -(((d.b - y) / (d.b - d.a) - 1) / (d.o / (d.b - d.a))) := by
      rw [div_sub_one hw.ne', div_div_div_cancel_right₀ hw.ne', sub_sub_sub_cancel_left, ← neg_div, neg_sub]
    simp only [Bool.false_eq_true, if_false]
    rw [conv_identity _ _ _ hp (div_pos ho hw), e, Normal.Phi_neg]; ring
  · have e : (y - d.b) / d.o = ((y - d.a) / (d.b - d.a) - 1) / (d.o / (d.b - d.a)) := by
      rw [div_sub_one hw.ne', div_div_div_cancel_right₀ hw.ne', sub_sub_sub_cancel_right]
    simp only [if_true]
    rw [conv_identity _ _ _ hp (div_pos ho hw), e]

end spec

noncomputable def mixtureDensity (p s t : ℝ) : ℝ := ∫ x in (0:ℝ)..1, dens t s x * (p * x ^ (p - 1))

theorem mixtureDensity_eq (p s t : ℝ) :
    mixtureDensity p s t = p * ∫ x in (0:ℝ)..1, x ^ (p - 1) * dens t s x := by
  rw [mixtureDensity, ← intervalIntegral.integral_const_mul]
  exact intervalIntegral.integral_congr fun x _ => by ring

section model
variable {T : List (ℕ × List (Entry ℝ))} {ninf pinf : ℝ} {d : Params ℝ} (S : Series T ninf pinf d)
include S

/-- the final clip can only help: the Spec lies in `[0,1]` -/
theorem cdf_sub_cdfSpec_le (hc : 0 < d.c) (y : ℝ) :
    |cdf (realFns T ninf pinf) d y - cdfSpec d y|
      ≤ |partialMoment (realFns T ninf pinf) (locOf d y) (d.o / (d.b - d.a)) (d.c : ℤ)
          - ∫ x in (0:ℝ)..1, x ^ ((d.c : ℝ) / 2) * dens (locOf d y) (d.o / (d.b - d.a)) x| := by
  obtain ⟨m0, m1⟩ := cdfSpec_mem d hc y
  rw [cdf_series S, ← clip_of_mem (cdfSpec d y) 0 1 m0 m1]
  refine (clip_lipschitz _ _ 0 1 zero_le_one).trans_eq ?_
  rw [cdfSpec_eq_formula d S.w_pos S.o_pos hc]
  unfold cdfRaw
  rw [realFns_normalCdf]
  cases d.convex
  · simp only [Bool.false_eq_true, if_false]
    rw [sub_sub_sub_cancel_left, abs_sub_comm]
  · simp only [if_true]
    rw [add_sub_add_left_eq_sub]

/-- **Model = Spec, even `c ≥ 2`, both shapes** -/
theorem cdf_even_eq_cdfSpec (k : ℕ) (hk : 1 ≤ k) (hc : d.c = 2 * k) (y : ℝ) :
    cdf (realFns T ninf pinf) d y = cdfSpec d y := by
  have hck : (d.c : ℝ) / 2 = k := by rw [hc]; push_cast; ring
  have := cdf_sub_cdfSpec_le S (by omega) y
  rw [hck, hc, partialMoment_even T ninf pinf _ _ S.s_pos k, gmom] at this
  simp only [Real.rpow_natCast, sub_self, abs_zero] at this
  exact sub_eq_zero.mp (abs_nonpos_iff.mp this)

/-- **odd `c` (including `c = 1`), both shapes**; C19 certifies `ε ≤ 1.02·max_error` for the shipped table.  (This is the
*provable* uniform bound; the implementation's real accuracy, 2.5e-5, is better than `ε` for some entries and is a
numerical fact.) -/
theorem cdf_odd_error (k : ℕ) (hc : d.c = 2 * k + 1) (y ε : ℝ) (hε0 : 0 ≤ ε)
    (hA : PiecesAccurate (selectedPieces (realFns T ninf pinf) (locOf d y) (d.o / (d.b - d.a)) ((2 * k + 1 : ℕ) : ℤ))
      (((2 * k + 1 : ℕ) : ℝ) / 2) ε) :
    |cdf (realFns T ninf pinf) d y - cdfSpec d y| ≤ ε := by
  refine (cdf_sub_cdfSpec_le S (by omega) y).trans ?_
  rw [abs_sub_comm, hc]
  exact partialMoment_odd_error T ninf pinf _ _ S.s_pos k ε hε0 hA

/-- the clip at `0` can only help: the mixture density is `≥ 0` -/
theorem pdf_sub_mixtureDensity_le (y : ℝ) :
    |(d.b - d.a) * pdf (realFns T ninf pinf) d y - mixtureDensity ((d.c : ℝ) / 2) (d.o / (d.b - d.a)) (locOf d y)|
      ≤ (d.c : ℝ) / 2 * |partialMoment (realFns T ninf pinf) (locOf d y) (d.o / (d.b - d.a)) ((d.c : ℤ) - 2)
          - ∫ x in (0:ℝ)..1, x ^ ((d.c : ℝ) / 2 - 1) * dens (locOf d y) (d.o / (d.b - d.a)) x| := by
  have hw := S.w_pos
  have hG : 0 ≤ ∫ x in (0:ℝ)..1, x ^ ((d.c : ℝ) / 2 - 1) * dens (locOf d y) (d.o / (d.b - d.a)) x :=
    intervalIntegral.integral_nonneg zero_le_one
      fun x hx => mul_nonneg (Real.rpow_nonneg hx.1 _) (dens_nonneg _ _ S.s_pos x)
  have hc0 : (0:ℝ) ≤ (d.c : ℝ) / 2 := by positivity
  have e : (d.b - d.a) * pdf (realFns T ninf pinf) d y
      = max 0 ((d.c : ℝ) / 2 * partialMoment (realFns T ninf pinf) (locOf d y) (d.o / (d.b - d.a)) ((d.c : ℤ) - 2)) := by
    rw [pdf_series S, mul_max_of_nonneg _ _ hw.le, mul_zero, ← mul_assoc, mul_div_assoc', mul_comm (d.b - d.a),
      mul_div_mul_right _ _ hw.ne']
  rw [e, mixtureDensity_eq, ← max_eq_right (mul_nonneg hc0 hG), max_comm, max_comm 0]
  refine (abs_max_sub_max_le_abs (α := ℝ) _ _ _).trans_eq ?_
  rw [← mul_sub, abs_mul, abs_of_nonneg hc0]

/-- **Model = Spec for the density, even `c ≥ 2`** (both shapes): the final clip at `0` never acts. -/
theorem pdf_even_eq_mixtureDensity (k : ℕ) (hc : d.c = 2 * k + 2) (y : ℝ) :
    (d.b - d.a) * pdf (realFns T ninf pinf) d y = mixtureDensity (k + 1) (d.o / (d.b - d.a)) (locOf d y) := by
  have hck : (d.c : ℝ) / 2 = k + 1 := by rw [hc]; push_cast; ring
  have := pdf_sub_mixtureDensity_le S y
  rw [hck, add_sub_cancel_right, show ((d.c : ℤ) - 2) = ((2 * k : ℕ) : ℤ) by rw [hc]; push_cast; ring,
    partialMoment_even T ninf pinf _ _ S.s_pos k, gmom] at this
  simp only [Real.rpow_natCast, sub_self, abs_zero, mul_zero] at this
  exact sub_eq_zero.mp (abs_nonpos_iff.mp this)

/-- **density, odd `c = 2k+3 ≥ 3`, both shapes**: `pdf` uses the partial moment of order `(c−2)/2 = (2k+1)/2`, so the
pieces are those selected for *that* order. -/
theorem pdf_odd_error (k : ℕ) (hc : d.c = 2 * k + 3) (y ε : ℝ) (hε0 : 0 ≤ ε)
    (hA : PiecesAccurate (selectedPieces (realFns T ninf pinf) (locOf d y) (d.o / (d.b - d.a)) ((2 * k + 1 : ℕ) : ℤ))
      (((2 * k + 1 : ℕ) : ℝ) / 2) ε) :
    |(d.b - d.a) * pdf (realFns T ninf pinf) d y
        - mixtureDensity (((2 * k + 3 : ℕ) : ℝ) / 2) (d.o / (d.b - d.a)) (locOf d y)|
      ≤ ((2 * k + 3 : ℕ) : ℝ) / 2 * ε := by
  have := pdf_sub_mixtureDensity_le S y
  rw [hc, show (((2 * k + 3 : ℕ) : ℤ) - 2) = ((2 * k + 1 : ℕ) : ℤ) by push_cast; ring,
    show ((2 * k + 3 : ℕ) : ℝ) / 2 - 1 = ((2 * k + 1 : ℕ) : ℝ) / 2 by push_cast; ring] at this
  exact this.trans (mul_le_mul_of_nonneg_left ((abs_sub_comm _ _).trans_le
    (partialMoment_odd_error T ninf pinf _ _ S.s_pos k ε hε0 hA)) (by positivity))

end model

end Opda.Noisy

import OpdaModel.EmpCurves
import OpdaProofs.EmpMore
/-!
C03, last clause: the `mean` / `variance` attributes (`Opda.Emp.moments`) are the weighted moments of the sample and
equal the moments of the step distribution `Σ_v pmf(v)·g(v)` over the merged atoms `v`.
-/
-- as in `Emp.lean`: `moments_none`, `moments_some` carry all three instance arguments of the fixed `Props.C03.moments_unweighted`,
-- `moments_weighted`, which they prove, although they need fewer
set_option linter.unusedSectionVars false
namespace Opda.Emp
variable {α : Type} [Field α]

theorem foldl_add_eq_sum {β : Type} (f : β → α) (l : List β) (a : α) :
    l.foldl (fun acc p => acc + f p) a = a + (l.map f).sum := by
  rw [← List.foldl_map]; exact List.foldl_eq_apply_foldr

theorem sum_map_const_weight (f g : α → α) (c : α) (l : List α) :
    ((l.map fun y => (y, c)).map fun p => f p.2 * g p.1).sum = f c * (l.map g).sum := by
  rw [List.map_map]; exact List.sum_map_mul_left l g (f c)

variable [LinearOrder α] [IsStrictOrderedRing α]

/-- `np.mean`, `np.var` (population variance). -/
theorem moments_none (ys : List α) :
    moments ys none
      = (ys.sum / (ys.length : α),
         (ys.map fun y => (y - ys.sum / (ys.length : α)) * (y - ys.sum / (ys.length : α))).sum / (ys.length : α)) := by
  have h1 : ys.foldl (· + ·) 0 = ys.sum := by
    have := foldl_add_eq_sum (fun y : α => y) ys 0
    simpa using this
  unfold moments
  simp only [h1]
  congr 2
  have := foldl_add_eq_sum (fun y : α => (y - ys.sum / (ys.length : α)) * (y - ys.sum / (ys.length : α))) ys 0
  simpa using this

/-- the `where=ws>0` filter drops only zero terms when the weights are non-negative -/
theorem sum_filter_pos (g : α → α) (l : List (α × α)) (h : ∀ p ∈ l, 0 ≤ p.2) :
    ((l.filter fun p => 0 < p.2).map fun p => p.2 * g p.1).sum = (l.map fun p => p.2 * g p.1).sum := by
  have := phiSum_filter g (fun p => decide (0 < p.2)) l fun p hp hP =>
    le_antisymm (not_lt.mp (by simpa using hP)) (h p hp)
  simpa only [phiSum, mul_comm] using this

theorem moments_some (ys ws : List α) (hw : ∀ w ∈ ws, 0 ≤ w) :
    moments ys (some ws)
      = (((ys.zip ws).map fun p => p.2 * p.1).sum,
         ((ys.zip ws).map fun p => p.2 * ((p.1 - ((ys.zip ws).map fun p => p.2 * p.1).sum)
            * (p.1 - ((ys.zip ws).map fun p => p.2 * p.1).sum))).sum) := by
  have hnn : ∀ p ∈ ys.zip ws, 0 ≤ p.2 := fun p hp => hw p.2 (List.of_mem_zip hp).2
  unfold moments
  simp only [foldl_add_eq_sum, zero_add]
  rw [sum_filter_pos (fun y => y) _ hnn]
  congr 1
  exact sum_filter_pos (fun y => (y - _) * (y - _)) _ hnn

theorem moments_none_eq_uniform (ys : List α) :
    moments ys none = moments ys (some (List.replicate ys.length (1 / (ys.length : α)))) := by
  have hpos : (0 : α) ≤ 1 / (ys.length : α) := by positivity
  rw [moments_none, moments_some _ _ (fun w hw => by rw [List.eq_of_mem_replicate hw]; exact hpos)]
  have hzip : ∀ (l : List α) (c : α), l.zip (List.replicate l.length c) = l.map fun y => (y, c) := by
    intro l c
    induction l with
    | nil => rfl
    | cons hd tl ih => simp [List.replicate_succ, ih]
  rw [hzip]
  have e1 := sum_map_const_weight (fun w => w) (fun y => y) (1 / (ys.length : α)) ys
  have e2 := sum_map_const_weight (fun w => w)
    (fun y => (y - ys.sum / (ys.length : α)) * (y - ys.sum / (ys.length : α))) (1 / (ys.length : α)) ys
  rw [List.map_id'] at e1
  simp only [e1, e2, one_div_mul_eq_div]

variable {E : Type} [LinearOrder E]

theorem weightEq_map_injective (ι : α → E) (hι : Function.Injective ι) (v : α) (obs : List (α × α)) :
    weightEq (ι v) (mapObs ι obs) = weightEq v obs := by
  rw [weightEq_eq_phiSum, weightEq_eq_phiSum, phiSum_mapObs]
  exact phiSum_congr fun q _ => if_congr hι.eq_iff rfl rfl

variable [OrderBot E] [OrderTop E]

/-- `ι` embeds the finite values into the extended value type (`Ext.fin`, `Real.toEReal`, …). -/
theorem sum_atoms_pmf (ι : α → E) (hι : Function.Injective ι) (a b : E) (g : α → α) (obs : List (α × α)) :
    ((atoms obs).map fun p => pmf (support ⊥ ⊤ a b (mapObs ι obs)) (ι p.1) * g p.1).sum
      = (obs.map fun p => p.2 / total obs * g p.1).sum := by
  -- at an atom the pmf is the atom's weight over the total: the sum is `phiSum (g / total)` over the atoms
  have h1 : ((atoms obs).map fun p => pmf (support ⊥ ⊤ a b (mapObs ι obs)) (ι p.1) * g p.1)
      = (atoms obs).map fun p => g p.1 / total obs * p.2 :=
    List.map_congr_left fun p hp => by
      rw [pmf_support, total_mapObs, weightEq_map_injective ι hι, ← weightEq_atoms,
        weightEq_of_mem_sorted (sorted_atoms obs) hp]
      ring
  rw [h1]
  exact (phiSum_atoms (fun v => g v / total obs) obs).trans
    (congrArg List.sum (List.map_congr_left fun p _ => by ring))

end Opda.Emp

import OpdaProofs.RectPIT
import OpdaProofs.BetaCheck
import Mathlib.Data.Nat.Choose.Sum
import Mathlib.Tactic

/-!
# C01 (ld methods): the coverage of a simulated order statistic follows a Beta law

For `N` independent draws from any σ-finite `ν` on `ℝ` the number of draws `≤ t` is binomial:
`P[m ≤ #{j | Y_j ≤ t}] = Σ_{S ⊆ Fin N, m ≤ |S|} ν(-∞,t]^{|S|} · ν(t,∞)^{N−|S|}` (`pi_eq_sum_cells` with the two cells `(-∞,t]`,
`(t,∞)`).  So for `N` independent uniforms the `k`-th (0-based) order statistic has distribution function
`Σ_{j = k+1}^{N} C(N,j) t^j (1−t)^{N−j}` on `[0,1]`, which is the Beta(k+1, N−k) distribution function `G (k+1) (N−k) t` of
`BetaCheck` (C15), i.e. the integral over `[0,t]` of the normalised Beta density; by the probability integral transform
`F(Y₍ₖ₎)` has the same law for `N` independent draws from any `ν` with continuous distribution function `F`.  A critical value
between `Y₍ₖ₎` and `Y₍ₖ'₎` has a coverage whose distribution function lies between the two Beta distribution functions
(`coverage_between_betas`; `Props/C01.lean` applies it to the interpolated quantile of `np.quantile`).
-/
namespace Opda.OrderStatBeta
open Finset MeasureTheory Set Opda.RectProbP Opda.CP Opda.BetaCheck

section binom
variable {N : ℕ}

theorem pi_count_ge (ν : Measure ℝ) [SigmaFinite ν] (t : ℝ) (m : ℕ) :
    (Measure.pi fun _ : Fin N => ν) {u | m ≤ #{j | u j ≤ t}}
      = ∑ S ∈ (Finset.univ.filter fun S : Finset (Fin N) => m ≤ #S), ν (Iic t) ^ #S * ν (Ioi t) ^ (N - #S) := by
  -- cell `true` is `(-∞, t]`, cell `false` is `(t, ∞)`; an assignment `g` stands for the set `{j | g j}`
  refine (pi_eq_sum_cells ν (A := fun b : Bool => cond b (Iic t) (Ioi t)) (P := fun g => m ≤ #{j | g j = true})
    ?_ ?_ ?_ ?_).trans ?_
  · intro b
    cases b
    exacts [measurableSet_Ioi, measurableSet_Iic]
  · intro b b' h
    cases b <;> cases b'
    exacts [absurd rfl h, (Iic_disjoint_Ioi le_rfl).symm, Iic_disjoint_Ioi le_rfl, absurd rfl h]
  · exact ae_of_all _ fun x =>
      (le_or_gt x t).elim (fun h => mem_iUnion.2 ⟨true, h⟩) fun h => mem_iUnion.2 ⟨false, h⟩
  · -- for `u` in the box of `g`: `u j ≤ t ↔ g j`, so the counts agree
    intro g u hu
    have : ∀ j, u j ≤ t ↔ g j = true := fun j => by
      have := hu j
      cases hg : g j <;> rw [hg] at this
      · exact ⟨fun h => absurd h (not_le.2 this), fun h => absurd h Bool.false_ne_true⟩
      · exact ⟨fun _ => rfl, fun _ => this⟩
    simp only [mem_ofPred_eq, this]
  -- re-index the assignments `g` by the sets `S = {j | g j}`; the box of `g` has mass `ν(-∞,t]^{|S|} ν(t,∞)^{N−|S|}`
  refine Finset.sum_nbij' (fun g => Finset.univ.filter fun j => g j = true) (fun S j => decide (j ∈ S))
    (fun g hg => by simpa only [Finset.mem_filter, Finset.mem_univ, true_and] using hg)
    (fun S hS => by
      simpa only [Finset.mem_filter, Finset.mem_univ, true_and, decide_eq_true_eq, Finset.filter_univ_mem] using hS)
    (fun g _ => funext fun j => by simp only [Finset.mem_filter, Finset.mem_univ, true_and, Bool.decide_eq_true])
    (fun S _ => by simp only [decide_eq_true_eq, Finset.filter_univ_mem]) fun g _ => ?_
  simp_rw [Bool.apply_cond ν, Bool.cond_eq_ite, Finset.prod_ite, Finset.prod_const]
  rw [← Finset.compl_filter, Finset.card_compl, Fintype.card_fin]

end binom

section unif
variable {N : ℕ}

theorem unif_Ioi {t : ℝ} (ht0 : 0 ≤ t) :
    ((volume : Measure ℝ).restrict (Icc 0 1)) (Ioi t) = ENNReal.ofReal (1 - t) := by
  rw [Measure.restrict_apply measurableSet_Ioi, ← Ici_inter_Iic, ← inter_assoc,
    inter_eq_left.2 (Ioi_subset_Ici ht0), Ioi_inter_Iic, Real.volume_Ioc]

theorem sum_subsets_eq_sum_Icc (m : ℕ) (t : ℝ) :
    ∑ S ∈ (Finset.univ.filter fun S : Finset (Fin N) => m ≤ #S), t ^ #S * (1 - t) ^ (N - #S)
      = ∑ j ∈ Finset.Icc m N, (N.choose j : ℝ) * t ^ j * (1 - t) ^ (N - j) := by
  rw [Finset.sum_filter, ← Finset.powerset_univ,
    Finset.sum_powerset_apply_card (fun c => if m ≤ c then t ^ c * (1 - t) ^ (N - c) else 0)]
  simp only [Finset.card_univ, Fintype.card_fin, nsmul_eq_mul]
  have hI : Finset.Icc m N = (Finset.range (N + 1)).filter fun c => m ≤ c := by
    ext c; simp only [Finset.mem_Icc, Finset.mem_filter, Finset.mem_range]; omega
  rw [hI, Finset.sum_filter]
  refine Finset.sum_congr rfl fun c _ => ?_
  split_ifs <;> ring

theorem unif_count_ge (m : ℕ) {t : ℝ} (ht0 : 0 ≤ t) (ht1 : t ≤ 1) :
    (Measure.pi fun _ : Fin N => (volume : Measure ℝ).restrict (Icc 0 1)) {u | m ≤ #{j | u j ≤ t}}
      = ENNReal.ofReal (∑ j ∈ Finset.Icc m N, (N.choose j : ℝ) * t ^ j * (1 - t) ^ (N - j)) := by
  rw [pi_count_ge, unif_Iic, min_eq_left ht1, unif_Ioi ht0, ← sum_subsets_eq_sum_Icc,
    ENNReal.ofReal_sum_of_nonneg]
  · refine Finset.sum_congr rfl fun S _ => ?_
    rw [ENNReal.ofReal_mul (pow_nonneg ht0 _), ENNReal.ofReal_pow ht0, ENNReal.ofReal_pow (by linarith)]
  · intro S _
    exact mul_nonneg (pow_nonneg ht0 _) (pow_nonneg (by linarith) _)

theorem unif_orderStat_cdf (k : Fin N) {t : ℝ} (ht0 : 0 ≤ t) (ht1 : t ≤ 1) :
    (Measure.pi fun _ : Fin N => (volume : Measure ℝ).restrict (Icc 0 1)) {u | orderStat u k ≤ t}
      = ENNReal.ofReal (∑ j ∈ Finset.Icc (k.val + 1) N, (N.choose j : ℝ) * t ^ j * (1 - t) ^ (N - j)) := by
  simp_rw [orderStat_le_iff]
  exact unif_count_ge (k.val + 1) ht0 ht1

/-- `BetaBinomP.tail_eq_sum` at the parameters `(a, b) = (k+1, N−k)` of the `k`-th of `N` order statistics (`a + b − 1 = N`);
only index arithmetic is added -/
theorem sum_Icc_eq_G (k : Fin N) (t : ℝ) :
    ∑ j ∈ Finset.Icc (k.val + 1) N, (N.choose j : ℝ) * t ^ j * (1 - t) ^ (N - j) = G (k.val + 1) (N - k.val) t := by
  have : k.val + 1 + (N - k.val) - 1 = N := by have := k.isLt; omega
  rw [G, this, Opda.BetaBinomP.tail_eq_sum]
  refine Finset.sum_congr ?_ fun _ _ => rfl
  ext j; simp only [Finset.mem_Icc, Finset.mem_Ico]; omega

/-- `BetaCheck.mass_eq_integral … 0 t` at `(a, b) = (k+1, N−k)`, with the exponents `a − 1 = k`, `b − 1 = N−1−k` written as
the statements of `Props/C01.lean` have them; the integrand is the normalised density:
`betaNorm (k+1) (N−k) = N·C(N−1,k) = 1/B(k+1, N−k)` -/
theorem G_eq_integral (k : Fin N) (t : ℝ) :
    G (k.val + 1) (N - k.val) t
      = ∫ s in (0:ℝ)..t, (Opda.BetaBinom.betaNorm (k.val + 1) (N - k.val) : ℝ) * (s ^ k.val * (1 - s) ^ (N - 1 - k.val)) := by
  have h := mass_eq_integral (k.val + 1) (N - k.val) (Nat.succ_pos _) (Nat.sub_pos_of_lt k.isLt) 0 t
  rw [G_zero _ _ (Nat.succ_pos _), sub_zero] at h
  rw [h]
  refine intervalIntegral.integral_congr fun s _ => ?_
  simp only [Opda.Hdi.g, Nat.add_sub_cancel, Nat.sub_right_comm N k.val 1]

end unif

section pit
variable {N : ℕ} {ν : Measure ℝ} [IsProbabilityMeasure ν]

/-- `F` is non-decreasing, so `F(Y₍ₖ₎) = (F∘Y)₍ₖ₎`, and `F∘Y` is a uniform sample (`pi_cdf_preimage`) -/
theorem cdf_orderStat_eq_unif (hF : Continuous (cdfOf ν)) (k : Fin N) (t : ℝ) :
    (Measure.pi fun _ : Fin N => ν) {y | cdfOf ν (orderStat y k) ≤ t}
      = (Measure.pi fun _ : Fin N => (volume : Measure ℝ).restrict (Icc 0 1)) {u | orderStat u k ≤ t} := by
  refine Eq.trans ?_ (pi_cdf_preimage hF (measurableSet_orderStat_le k t))
  congr 1
  ext y
  rw [Set.mem_preimage, mem_ofPred_eq, mem_ofPred_eq, ← orderStat_comp_mono (cdfOf_mono ν) y k]
  rfl

/-- **a critical value between two order statistics**: if `Y₍ₖ₎ ≤ c(Y) ≤ Y₍ₖ'₎` for every sample (e.g. a linear
interpolation between adjacent order statistics, as `np.quantile` returns), then the distribution function of its
coverage `F(c(Y))` lies between those of Beta(k'+1, N−k') and Beta(k+1, N−k) -/
theorem coverage_between_betas (hF : Continuous (cdfOf ν)) (k k' : Fin N) (c : (Fin N → ℝ) → ℝ)
    (hc : ∀ y, orderStat y k ≤ c y ∧ c y ≤ orderStat y k') {t : ℝ} (ht0 : 0 ≤ t) (ht1 : t ≤ 1) :
    ENNReal.ofReal (G (k'.val + 1) (N - k'.val) t) ≤ (Measure.pi fun _ : Fin N => ν) {y | cdfOf ν (c y) ≤ t}
      ∧ (Measure.pi fun _ : Fin N => ν) {y | cdfOf ν (c y) ≤ t} ≤ ENNReal.ofReal (G (k.val + 1) (N - k.val) t) := by
  have hG : ∀ k : Fin N, (Measure.pi fun _ : Fin N => ν) {y | cdfOf ν (orderStat y k) ≤ t}
      = ENNReal.ofReal (G (k.val + 1) (N - k.val) t) := fun k => by
    rw [cdf_orderStat_eq_unif hF, unif_orderStat_cdf k ht0 ht1, sum_Icc_eq_G]
  constructor
  · rw [← hG k']
    exact measure_mono fun y hy => (show cdfOf ν (c y) ≤ t from le_trans (cdfOf_mono ν (hc y).2) hy)
  · rw [← hG k]
    exact measure_mono fun y hy => (show cdfOf ν (orderStat y k) ≤ t from le_trans (cdfOf_mono ν (hc y).1) hy)

end pit

end Opda.OrderStatBeta

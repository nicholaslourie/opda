import OpdaModel.Approx
import OpdaProofs.Lagrange
import Mathlib.Algebra.Polynomial.Eval.Defs
import Mathlib.Algebra.Polynomial.Eval.Coeff
import Mathlib.Data.Nat.Choose.Sum
import Mathlib.Tactic

/-!
The binomial re-expansion `a'_i = Σ_{j≥i} C(j,i) b^{j−i} c^j a_j` performed by
`minimax_polynomial_coefficients` is composition of the coefficient polynomial with the affine map
`x ↦ c·(x + b)`; with the code's `c = m_inv`, `b = m·ta − a_orig` this is the map
`x ↦ ta + (x − a_orig)/m` taking the original interval to the transform interval (DESIGN §3 plan item C18-T2).
-/

namespace Opda.Reexp
open Finset Opda.Lagr

theorem choose_eq (n k : ℕ) : choose n k = Nat.choose n k := by
  induction n generalizing k with
  | zero => cases k <;> simp [choose]
  | succ n ih =>
    cases k with
    | zero => simp [choose]
    | succ k => simp [choose, ih, Nat.choose_succ_succ]

section Ring
variable {R : Type} [CommRing R]

theorem powN_eq (x : R) (k : ℕ) : powN x k = x ^ k := by
  induction k with
  | zero => simp [powN]
  | succ k ih => simp [powN, ih, pow_succ]

/-- the code's sum over `j = i … N−1` is the full-range sum (binomials vanish below the diagonal) -/
theorem reexpand_eq (N : ℕ) (a : ℕ → R) (b c : R) (i : ℕ) (hi : i ≤ N) :
    reexpand N a b c i = ∑ j ∈ range N, (Nat.choose j i : R) * b ^ (j - i) * c ^ j * a j := by
  unfold reexpand
  rw [sumTo_eq]
  have hN : N = i + (N - i) := by omega
  conv_rhs => rw [hN, Finset.sum_range_add]
  have hz : ∑ j ∈ range i, (Nat.choose j i : R) * b ^ (j - i) * c ^ j * a j = 0 := by
    refine Finset.sum_eq_zero fun j hj => ?_
    rw [Nat.choose_eq_zero_of_lt (mem_range.mp hj)]; simp
  rw [hz, zero_add]
  refine Finset.sum_congr rfl fun k _ => ?_
  rw [choose_eq, powN_eq, powN_eq]

theorem reexpand_sum (N : ℕ) (a : ℕ → R) (b c x : R) :
    ∑ i ∈ range N, reexpand N a b c i * x ^ i = ∑ j ∈ range N, a j * (c * (x + b)) ^ j := by
  have h1 : ∀ i ∈ range N, reexpand N a b c i * x ^ i
      = ∑ j ∈ range N, (Nat.choose j i : R) * b ^ (j - i) * c ^ j * a j * x ^ i := by
    intro i hi
    rw [reexpand_eq N a b c i (mem_range.mp hi).le, Finset.sum_mul]
  rw [Finset.sum_congr rfl h1, Finset.sum_comm]
  refine Finset.sum_congr rfl fun j hj => ?_
  have hj' : j + 1 ≤ N := mem_range.mp hj
  rw [mul_pow, add_pow]
  have hsub : ∑ i ∈ range (j + 1), x ^ i * b ^ (j - i) * (Nat.choose j i : R)
      = ∑ i ∈ range N, x ^ i * b ^ (j - i) * (Nat.choose j i : R) := by
    apply Finset.sum_subset (Finset.range_subset_range.mpr hj')
    intro i _ hi
    have : j < i := by
      have := mt mem_range.mpr hi
      omega
    rw [Nat.choose_eq_zero_of_lt this]; simp
  rw [hsub, Finset.mul_sum, Finset.mul_sum]
  refine Finset.sum_congr rfl fun i _ => ?_
  ring

end Ring

section Poly
variable {F : Type} [Field F]
open Polynomial

noncomputable def polyOf (N : ℕ) (a : ℕ → F) : F[X] := ∑ j ∈ range N, C (a j) * X ^ j

theorem eval_polyOf (N : ℕ) (a : ℕ → F) (x : F) : (polyOf N a).eval x = ∑ j ∈ range N, a j * x ^ j := by
  simp [polyOf, eval_finsetSum]

theorem C_reexpand (N : ℕ) (a : ℕ → F) (b c : F) (i : ℕ) :
    C (reexpand N a b c i) = reexpand N (fun j => C (a j)) (C b) (C c) i := by
  unfold reexpand
  rw [sumTo_eq, sumTo_eq, map_sum]
  refine Finset.sum_congr rfl fun k _ => ?_
  rw [powN_eq, powN_eq, powN_eq, powN_eq]
  simp only [map_mul, map_pow, map_natCast]

end Poly

section Field
variable {F : Type} [Field F]

theorem affine_code (ta tb a0 b0 x : F) (h1 : tb - ta ≠ 0) (h2 : b0 - a0 ≠ 0) :
    let m := (b0 - a0) / (tb - ta)
    (1 / m) * (x + (m * ta - a0)) = ta + (x - a0) / m := by
  intro m
  have hm : m ≠ 0 := div_ne_zero h2 h1
  field_simp
  ring

end Field

end Opda.Reexp

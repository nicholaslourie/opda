import OpdaModel.Quadratic
import OpdaProofs.RealInst
import OpdaProofs.QuadPdf
import Mathlib.Probability.Distributions.Beta
import Mathlib.Analysis.SpecialFunctions.Integrals.Basic
import Mathlib.Tactic

/-! C08-T2: the closed forms of `QuadraticDistribution.average_tuning_curve` are the expectations of the
best of `n` draws (`n > 0` real): with `W = U^{2/c}`,
`E[max W] = ∫₀¹ u^{2/c} · n u^{n−1} du = n/(n + 2/c)` and
`E[min W] = ∫₀¹ u^{2/c} · n (1−u)^{n−1} du = Γ(n+1) Γ(1+2/c) / Γ(n+1+2/c)` (`EmaxW_eq`, `EminW_eq`,
`avg_is_expectation`).  The second half: both expectations lie in `[0,1]`, `E[max W]` increases and `E[min W]`
decreases in `n` (`EmaxW_mem`, `EmaxW_mono`, `EminW_mem`, `EminW_anti`; for the minimum through its survival-function
form `EminW_eq_surv` and `surv_anti`); from these `Props/C08` gets range and monotonicity of the curve. -/
namespace Opda.Quad
open Opda Opda.Num MeasureTheory intervalIntegral Set

/-- Mathlib has the Γ-formula only for the complex `Complex.betaIntegral`; the real integral is its real part
(the integrand is real on `(0,1)`, and `re` commutes with the integral once the complex one converges) -/
theorem real_betaIntegral (a b : ℝ) (ha : 0 < a) (hb : 0 < b) :
    ∫ x in (0:ℝ)..1, x ^ (a - 1) * (1 - x) ^ (b - 1) = Real.Gamma a * Real.Gamma b / Real.Gamma (a + b) := by
  have hbeta := ProbabilityTheory.beta_eq_betaIntegralReal a b ha hb
  unfold ProbabilityTheory.beta at hbeta
  rw [hbeta, Complex.betaIntegral, intervalIntegral.integral_of_le zero_le_one,
    intervalIntegral.integral_of_le zero_le_one, ← RCLike.re_to_complex, ← integral_re]
  · refine setIntegral_congr_fun measurableSet_Ioc fun x ⟨hx1, hx2⟩ => ?_
    norm_cast
    rw [← Complex.ofReal_cpow, ← Complex.ofReal_cpow, RCLike.re_to_complex, Complex.re_mul_ofReal,
      Complex.ofReal_re]
    all_goals linarith
  · have := Complex.betaIntegral_convergent (u := (a:ℂ)) (v := (b:ℂ)) (by simpa) (by simpa)
    rwa [intervalIntegrable_iff_integrableOn_Ioc_of_le zero_le_one] at this

/-- `E[max of n draws of W]`, `W = U^{2/c}`: density of the maximum of `n` uniforms is `n u^{n−1}` -/
noncomputable def EmaxW (c : ℕ) (n : ℝ) : ℝ := ∫ u in (0:ℝ)..1, u ^ ((2:ℝ) / c) * (n * u ^ (n - 1))

/-- `E[min of n draws of W]`: density of the minimum of `n` uniforms is `n (1−u)^{n−1}` -/
noncomputable def EminW (c : ℕ) (n : ℝ) : ℝ := ∫ u in (0:ℝ)..1, u ^ ((2:ℝ) / c) * (n * (1 - u) ^ (n - 1))

theorem two_div_pos {c : ℕ} (hc : 0 < c) : (0:ℝ) < 2 / c := div_pos two_pos (Nat.cast_pos.mpr hc)

theorem EmaxW_eq (c : ℕ) (hc : 0 < c) (n : ℝ) (hn : 0 < n) : EmaxW c n = n / (n + 2 / c) := by
  have hβ := two_div_pos hc
  have hcongr : ∀ u ∈ Ioc (0:ℝ) 1, u ^ ((2:ℝ) / c) * (n * u ^ (n - 1)) = n * u ^ (n + 2 / c - 1) := by
    intro u hu
    rw [add_sub_right_comm, add_comm, Real.rpow_add hu.1, mul_left_comm]
  rw [EmaxW, intervalIntegral.integral_of_le zero_le_one, setIntegral_congr_fun measurableSet_Ioc hcongr,
    ← intervalIntegral.integral_of_le zero_le_one, integral_const_mul_rpow _ _ (by linarith), sub_add_cancel]

theorem EminW_eq (c : ℕ) (hc : 0 < c) (n : ℝ) (hn : 0 < n) :
    EminW c n = Real.Gamma (n + 1) * Real.Gamma (1 + 2 / c) / Real.Gamma (n + 1 + 2 / c) := by
  have hcongr : ∀ u ∈ uIcc (0:ℝ) 1, u ^ ((2:ℝ) / c) * (n * (1 - u) ^ (n - 1))
      = n * (u ^ ((1 + (2:ℝ) / c) - 1) * (1 - u) ^ (n - 1)) := by
    intro u _
    rw [add_sub_cancel_left, mul_left_comm]
  rw [EminW, integral_congr hcongr, intervalIntegral.integral_const_mul,
    real_betaIntegral (1 + 2 / c) n (add_pos one_pos (two_div_pos hc)) hn, Real.Gamma_add_one hn.ne',
    show 1 + (2:ℝ) / c + n = n + 1 + 2 / c by ring]
  ring

/-- the exponential of log-gammas in the source is the Gamma ratio -/
theorem expLogGamma_eq (c : ℕ) (hc : 0 < c) (n : ℝ) (hn : 0 < n) :
    Real.exp (Real.log (Real.Gamma (n + 1)) + Real.log (Real.Gamma (((c:ℝ) + 2) / c))
        - Real.log (Real.Gamma (n + ((c:ℝ) + 2) / c)))
      = Real.Gamma (n + 1) * Real.Gamma (1 + 2 / c) / Real.Gamma (n + 1 + 2 / c) := by
  have hβ := two_div_pos hc
  have h1 := Real.Gamma_pos_of_pos (add_pos hn one_pos)
  have h2 := Real.Gamma_pos_of_pos (add_pos one_pos hβ)
  have h3 := Real.Gamma_pos_of_pos (add_pos (add_pos hn one_pos) hβ)
  rw [add_div, div_self (Nat.cast_pos.mpr hc).ne', ← add_assoc, Real.exp_sub, Real.exp_add, Real.exp_log h1,
    Real.exp_log h2, Real.exp_log h3]

/-- **C08-T2**: the four closed-form branches are the expectations of the best of `n` draws of
`a + (b−a) W` (convex) resp. `b − (b−a) W` (concave) -/
theorem avg_is_expectation (d : Params ℝ) (hc : 0 < d.c) (nn : ℝ) (hn : 0 < nn) (mn : Option Bool) :
    averageTuningCurve d nn mn =
      if d.convex then
        (if mn.getD d.convex then d.a + (d.b - d.a) * EminW d.c nn else d.a + (d.b - d.a) * EmaxW d.c nn)
      else
        (if mn.getD d.convex then d.b - (d.b - d.a) * EmaxW d.c nn else d.b - (d.b - d.a) * EminW d.c nn) := by
  -- first put the right side in the source's `exp(lgamma … )` form, then compare branch by branch
  have hg := expLogGamma_eq d.c hc nn hn
  rw [EminW_eq d.c hc nn hn, EmaxW_eq d.c hc nn hn, ← hg]
  unfold averageTuningCurve
  simp only [num_n, num_exp, num_logGamma, Nat.cast_one, Nat.cast_ofNat]
  cases d.convex <;> cases (mn.getD _) <;> simp only [Bool.false_eq_true, if_true, if_false] <;> ring

theorem EmaxW_mem (c : ℕ) (hc : 0 < c) (n : ℝ) (hn : 0 < n) : 0 ≤ EmaxW c n ∧ EmaxW c n ≤ 1 := by
  have hβ := (two_div_pos hc).le
  rw [EmaxW_eq c hc n hn]
  exact ⟨div_nonneg hn.le (add_nonneg hn.le hβ), div_le_one_of_le₀ (le_add_of_nonneg_right hβ) (add_nonneg hn.le hβ)⟩

theorem EmaxW_mono (c : ℕ) (hc : 0 < c) (n n' : ℝ) (hn : 0 < n) (hnn : n ≤ n') : EmaxW c n ≤ EmaxW c n' := by
  have hβ := (two_div_pos hc).le
  rw [EmaxW_eq c hc n hn, EmaxW_eq c hc n' (hn.trans_le hnn),
    div_le_div_iff₀ (add_pos_of_pos_of_nonneg hn hβ) (add_pos_of_pos_of_nonneg (hn.trans_le hnn) hβ)]
  linarith [mul_le_mul_of_nonneg_right hnn hβ]

theorem intervalIntegrable_surv (β n : ℝ) (hβ : 0 < β) (hn : 0 ≤ n) :
    IntervalIntegrable (fun u : ℝ => β * (u ^ (β - 1) * (1 - u) ^ n)) volume 0 1 := by
  have h1 : IntervalIntegrable (fun u : ℝ => u ^ (β - 1)) volume 0 1 := intervalIntegrable_rpow' (by linarith)
  have h2 : ContinuousOn (fun u : ℝ => (1 - u) ^ n) (uIcc (0:ℝ) 1) :=
    ((Real.continuous_rpow_const hn).comp (continuous_const.sub continuous_id)).continuousOn
  exact (h1.mul_continuousOn h2).const_mul β

/-- `n ↦ ∫₀¹ β u^{β−1} (1−u)^n du` (the survival function of the minimum of `n` draws of `W`, integrated) is
non-increasing on `n ≥ 0` and `1` at `n = 0`: both `E[min W] ≤ 1` and its monotonicity in `n` come from here -/
theorem surv_anti (β n n' : ℝ) (hβ : 0 < β) (hn : 0 ≤ n) (hnn : n ≤ n') :
    ∫ u in (0:ℝ)..1, β * (u ^ (β - 1) * (1 - u) ^ n') ≤ ∫ u in (0:ℝ)..1, β * (u ^ (β - 1) * (1 - u) ^ n) :=
  intervalIntegral.integral_mono_on zero_le_one (intervalIntegrable_surv β n' hβ (hn.trans hnn))
    (intervalIntegrable_surv β n hβ hn) fun _ hu =>
      mul_le_mul_of_nonneg_left (mul_le_mul_of_nonneg_left
        (Real.rpow_le_rpow_of_exponent_ge' (sub_nonneg.mpr hu.2) (sub_le_self 1 hu.1) hn hnn)
        (Real.rpow_nonneg hu.1 _)) hβ.le

/-- `E[min W] = ∫₀¹ P[min W > w] dw` after `w = u^β`, `β = 2/c`: an integration by parts of the defining integral,
proved here by evaluating both sides to the same Γ-ratio (`Γ(1+β) = β Γ(β)`) -/
theorem EminW_eq_surv (c : ℕ) (hc : 0 < c) (n : ℝ) (hn : 0 < n) :
    EminW c n = ∫ u in (0:ℝ)..1, (2:ℝ) / c * (u ^ ((2:ℝ) / c - 1) * (1 - u) ^ n) := by
  have hβ := two_div_pos hc
  have := real_betaIntegral (2 / c) (n + 1) hβ (add_pos hn one_pos)
  rw [add_sub_cancel_right] at this
  rw [EminW_eq c hc n hn, intervalIntegral.integral_const_mul, this, add_comm (1:ℝ) (2 / c), Real.Gamma_add_one hβ.ne',
    show (2:ℝ) / c + (n + 1) = n + 1 + 2 / c by ring]
  ring

theorem EminW_mem (c : ℕ) (hc : 0 < c) (n : ℝ) (hn : 0 < n) : 0 ≤ EminW c n ∧ EminW c n ≤ 1 := by
  refine ⟨intervalIntegral.integral_nonneg zero_le_one fun u hu => mul_nonneg (Real.rpow_nonneg hu.1 _)
    (mul_nonneg hn.le (Real.rpow_nonneg (sub_nonneg.mpr hu.2) _)), ?_⟩
  rw [EminW_eq_surv c hc n hn]
  refine (surv_anti _ 0 n (two_div_pos hc) le_rfl hn.le).trans_eq ?_
  simp only [Real.rpow_zero, mul_one]
  rw [integral_mul_rpow_sub_one (two_div_pos hc), Real.one_rpow]

theorem EminW_anti (c : ℕ) (hc : 0 < c) (n n' : ℝ) (hn : 0 < n) (hnn : n ≤ n') : EminW c n' ≤ EminW c n := by
  rw [EminW_eq_surv c hc n hn, EminW_eq_surv c hc n' (hn.trans_le hnn)]
  exact surv_anti _ n n' (two_div_pos hc) hn.le hnn

end Opda.Quad

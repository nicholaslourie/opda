import OpdaModel.NoisyFloat
import OpdaModel.QuadNoisy
import OpdaProofs.NoisyLogic
import OpdaProofs.QuadTrap
import Mathlib.Algebra.Order.Field.Basic
import Mathlib.Tactic

/-!
C09 (noisy class): reflection duality and location–scale equivariance of `Opda.Noisy.{cdf, pdf, ppf}` and of the quantile
curve, over an arbitrary linearly ordered field and for an **arbitrary** record `F : Fns α` — in particular for
any partial-moment machinery (table, Chebyshev fallback, recursions): the quantities the series regime is computed from
(`locOf`, the scale `o/(b−a)`, the `point`) are identical / negated for `D` at `y` and `D'` at `−y` and invariant under
the affine map, so the internals drop out.  The affine map is general, `y ↦ A + B y` with `B > 0` acting on the
parameters by `aff A B`; the statements about the standard member `std0 d` (`Props/C09.noisy_*_affine`) are the instance
`d = aff d.a (d.b − d.a) (std0 d)` (`aff_std0`).  The quantile curve under the affine map is `ppf_aff` read at the level.
What is assumed about `F` is explicit: `Lawful F`, `Symm F`, `SymmPpf F` (only `ppf`) and, for the `normal` regime under
rescaling, `SqrtScale F`.  The last part is about the integrated curve and is over `ℝ`, where the loop lemmas of
`QuadTrap.lean` are stated.
-/
-- the `variable` line assumes an ordered field and an `F` for every lemma, more than many of them need
set_option linter.unusedSectionVars false

namespace Opda.Noisy

variable {α : Type} [Field α] [LinearOrder α] [IsStrictOrderedRing α] {F : Fns α}

def reflect (d : Params α) : Params α :=
  { a := -d.b, b := -d.a, c := d.c, o := d.o, convex := !d.convex }

def std0 (d : Params α) : Params α :=
  { a := 0, b := 1, c := d.c, o := d.o / (d.b - d.a), convex := d.convex }

structure Symm (F : Fns α) : Prop where
  cdf_neg : ∀ x, F.normalCdf (-x) = 1 - F.normalCdf x
  pdf_neg : ∀ x, F.normalPdf (-x) = F.normalPdf x

structure SymmPpf (F : Fns α) : Prop where
  ppf_compl : ∀ q, F.normalPpf (1 - q) = - F.normalPpf q
  inf_neg : F.negInf = - F.posInf

structure SqrtScale (F : Fns α) : Prop where
  sqrt_scale : ∀ k v : α, 0 < k → F.sqrt (k * k * v) = k * F.sqrt v

def aff (A B : α) (d : Params α) : Params α :=
  { a := A + B * d.a, b := A + B * d.b, c := d.c, o := B * d.o, convex := d.convex }

theorem aff_std0 (d : Params α) (hab : d.a < d.b) :
    0 < d.b - d.a ∧ (std0 d).a < (std0 d).b ∧ aff d.a (d.b - d.a) (std0 d) = d := by
  have hB := sub_pos.mpr hab
  refine ⟨hB, zero_lt_one, ?_⟩
  cases d
  simp only [aff, std0, mul_zero, add_zero, mul_one, add_sub_cancel, mul_div_cancel₀ _ hB.ne']

theorem pointMass_false (hF : Lawful F) (d : Params α) (hab : d.a < d.b) : pointMass F d = false :=
  pointMass_eq_false hF d (.inl hab.ne)

/-- the bisection bracket is the integration range `[intLo, intHi] = [a − 6o, b + 6o]` of the model -/
theorem ppfBisect_int (d : Params α) (q : α) :
    ppfBisect F d q = midpoint F (bisect (cdf F d) (midpoint F) q 30 (intLo F d, intHi F d)).1
      (bisect (cdf F d) (midpoint F) q 30 (intLo F d, intHi F d)).2 := rfl

theorem intLo_aff (F : Fns α) (A B : α) (d : Params α) : intLo F (aff A B d) = A + B * intLo F d := by
  unfold intLo aff; ring

theorem intHi_aff (F : Fns α) (A B : α) (d : Params α) : intHi F (aff A B d) = A + B * intHi F d := by
  unfold intHi aff; ring

theorem intLo_reflect (F : Fns α) (d : Params α) : intLo F (reflect d) = - intHi F d := by
  unfold intLo intHi reflect; ring

theorem intHi_reflect (F : Fns α) (d : Params α) : intHi F (reflect d) = - intLo F d := by
  unfold intLo intHi reflect; ring

section aff
variable (A : α) {B : α}

theorem aff_sub (B x y : α) : A + B * x - (A + B * y) = B * (x - y) := by ring

theorem aff_ratio (hB : B ≠ 0) (x y u v : α) :
    (A + B * x - (A + B * y)) / (A + B * u - (A + B * v)) = (x - y) / (u - v) := by
  rw [aff_sub, aff_sub, mul_div_mul_left _ _ hB]

theorem aff_coef (hB : B ≠ 0) (x n w m : α) : B * (x / (n * (B * w)) * m) = x / (n * w) * m := by
  rw [mul_left_comm n B w, ← mul_assoc, ← mul_div_assoc, mul_div_mul_left _ _ hB]

theorem aff_lt (hB : 0 < B) (d : Params α) (hab : d.a < d.b) : (aff A B d).a < (aff A B d).b :=
  add_lt_add_right (mul_lt_mul_of_pos_left hab hB) A

theorem locOf_aff (hB : B ≠ 0) (d : Params α) (y : α) : locOf (aff A B d) (A + B * y) = locOf d y := by
  simp only [locOf, aff, aff_ratio A hB]

theorem scaleOf_aff (hB : B ≠ 0) (d : Params α) : scaleOf (aff A B d) = scaleOf d := by
  simp only [scaleOf, aff, aff_sub, mul_div_mul_left _ _ hB]

theorem pointOf_aff (hB : B ≠ 0) (d : Params α) (y : α) : pointOf (aff A B d) (A + B * y) = pointOf d y := by
  simp only [pointOf, aff, aff_sub, mul_div_mul_left _ _ hB]

theorem regime_aff (hB : 0 < B) (d : Params α) : regime F (aff A B d) = regime F d := by
  -- both comparisons read `B·o < c·(B·w)` for the image, and `B > 0` cancels
  have hc : ∀ c o w : α, B * o < c * (B * w) ↔ o < c * w := fun c o w => by
    rw [mul_left_comm, mul_lt_mul_iff_right₀ hB]
  simp only [regime, aff, aff_sub, hc]

theorem meanOf_aff (d : Params α) : meanOf F (aff A B d) = A + B * meanOf F d := by
  simp only [meanOf, aff, aff_sub]; split_ifs <;> ring

theorem varOf_aff (d : Params α) : varOf F (aff A B d) = B * B * varOf F d := by
  simp only [varOf, aff, aff_sub]; ring

theorem z_aff (hQ : SqrtScale F) (hB : 0 < B) (d : Params α) (y : α) :
    (A + B * y - meanOf F (aff A B d)) / F.sqrt (varOf F (aff A B d)) = (y - meanOf F d) / F.sqrt (varOf F d) := by
  rw [meanOf_aff, varOf_aff, hQ.sqrt_scale _ _ hB, aff_sub, mul_div_mul_left _ _ hB.ne']

theorem cdfRaw_aff (hB : B ≠ 0) (d : Params α) (y : α) : cdfRaw F (aff A B d) (A + B * y) = cdfRaw F d y := by
  rw [cdfRaw_eq, cdfRaw_eq, locOf_aff A hB, scaleOf_aff A hB, pointOf_aff A hB]; rfl

theorem pdfRaw_aff (hB : B ≠ 0) (d : Params α) (y : α) :
    B * pdfRaw F (aff A B d) (A + B * y) = pdfRaw F d y := by
  rw [pdfRaw_eq, pdfRaw_eq, locOf_aff A hB, scaleOf_aff A hB]
  simp only [aff, aff_sub, aff_coef hB]

theorem aff_same_branch (hF : Lawful F) (hB : 0 < B) (d : Params α) (hab : d.a < d.b) :
    pointMass F d = false ∧ pointMass F (aff A B d) = false ∧ ∀ r, regime F d = r → regime F (aff A B d) = r :=
  ⟨pointMass_false hF d hab, pointMass_false hF _ (aff_lt A hB d hab), fun _ => (regime_aff A hB d).trans⟩

theorem cdf_aff (hF : Lawful F) (hQ : SqrtScale F) (hB : 0 < B) (d : Params α) (hab : d.a < d.b) (y : α) :
    cdf F (aff A B d) (A + B * y) = cdf F d y := by
  obtain ⟨hp, hp', hr⟩ := aff_same_branch A hF hB d hab
  cases h : regime F d
  · rw [cdf_noiseless d _ hp h, cdf_noiseless _ _ hp' (hr _ h)]
    simp only [aff]
    rw [clip_strictMono (f := fun y => A + B * y) (fun _ _ h => add_lt_add_right (mul_lt_mul_of_pos_left h hB) A),
      aff_ratio A hB.ne', aff_ratio A hB.ne']
    rfl
  · rw [cdf_nothing d _ hp h, cdf_nothing _ _ hp' (hr _ h), cdfRaw_aff A hB.ne']
  · rw [cdf_normal d _ hp h, cdf_normal _ _ hp' (hr _ h), z_aff A hQ hB]

theorem pdf_aff (hF : Lawful F) (hQ : SqrtScale F) (hB : 0 < B) (d : Params α) (hab : d.a < d.b) (y : α) :
    B * pdf F (aff A B d) (A + B * y) = pdf F d y := by
  obtain ⟨hp, hp', hr⟩ := aff_same_branch A hF hB d hab
  cases h : regime F d
  · rw [pdf_noiseless d _ hp h, pdf_noiseless _ _ hp' (hr _ h)]
    -- `B` cancels in the guards (`A + B y < A + B a ↔ y < a`), in the ratios and, through `aff_coef`, in the coefficient
    simp only [aff, add_lt_add_iff_left, mul_lt_mul_iff_right₀ hB, aff_sub, mul_div_mul_left _ _ hB.ne', mul_ite,
      aff_coef hB.ne', hF.n_zero, mul_zero]
  · have hc : ∀ p : α, B * p < 0 ↔ p < 0 := fun p => by simpa using mul_lt_mul_iff_right₀ hB (b := p) (c := 0)
    rw [pdf_nothing d _ hp h, pdf_nothing _ _ hp' (hr _ h), ← pdfRaw_aff A hB.ne' d y, hF.n_zero, mul_ite, mul_zero]
    simp only [hc]
  · rw [pdf_normal d _ hp h, pdf_normal _ _ hp' (hr _ h), z_aff A hQ hB, varOf_aff, hQ.sqrt_scale _ _ hB,
      ← mul_div_assoc, mul_div_mul_left _ _ hB.ne']

theorem midpoint_aff (hF : Lawful F) (A B lo hi : α) :
    midpoint F (A + B * lo) (A + B * hi) = A + B * midpoint F lo hi := by
  unfold midpoint; rw [hF.n_ofNat]; ring

theorem bisect_aff (hF : Lawful F) (f g : α → α) (q A B : α) (hfg : ∀ z, f (A + B * z) = g z) (k : Nat)
    (lo hi : α) :
    bisect f (midpoint F) q k (A + B * lo, A + B * hi)
      = (A + B * (bisect g (midpoint F) q k (lo, hi)).1, A + B * (bisect g (midpoint F) q k (lo, hi)).2) := by
  induction k generalizing lo hi with
  | zero => rfl
  | succ k ih =>
    simp only [bisect, midpoint_aff hF, hfg]
    split_ifs <;> exact ih _ _

theorem ppfBisect_aff (hF : Lawful F) (hQ : SqrtScale F) (hB : 0 < B) (d : Params α) (hab : d.a < d.b) (q : α) :
    ppfBisect F (aff A B d) q = A + B * ppfBisect F d q := by
  rw [ppfBisect_int, ppfBisect_int, intLo_aff, intHi_aff, bisect_aff hF _ (cdf F d) q A B (cdf_aff A hF hQ hB d hab),
    midpoint_aff hF]

/-- `q ∈ (0,1)`: at `q ∈ {0,1}` the series regime returns `∓inf` -/
theorem ppf_aff (hF : Lawful F) (hQ : SqrtScale F) (hB : 0 < B) (d : Params α) (hab : d.a < d.b) (q : α)
    (hq0 : 0 < q) (hq1 : q < 1) : ppf F (aff A B d) q = A + B * ppf F d q := by
  obtain ⟨hp, hp', hr⟩ := aff_same_branch A hF hB d hab
  cases h : regime F d
  · rw [ppf_noiseless d _ hp h, ppf_noiseless _ _ hp' (hr _ h)]
    simp only [aff, aff_sub]; split_ifs <;> ring
  · rw [ppf_nothing hF d _ hp h, ppf_nothing hF _ _ hp' (hr _ h), clip_of_mem q 0 1 hq0.le hq1.le,
      if_neg hq0.ne', if_neg hq0.ne', if_neg hq1.ne, if_neg hq1.ne, ppfBisect_aff A hF hQ hB d hab]
  · rw [ppf_normal d _ hp h, ppf_normal _ _ hp' (hr _ h), meanOf_aff, varOf_aff, hQ.sqrt_scale _ _ hB]; ring

end aff

theorem locOf_reflect (d : Params α) (y : α) : locOf (reflect d) (-y) = locOf d y := by
  rcases d with ⟨a, b, c, o, _ | _⟩ <;> simp only [locOf, reflect, neg_sub_neg] <;> rfl

theorem scaleOf_reflect (d : Params α) : scaleOf (reflect d) = scaleOf d := by
  simp only [scaleOf, reflect, neg_sub_neg]

theorem pointOf_reflect (d : Params α) (y : α) : pointOf (reflect d) (-y) = - pointOf d y := by
  rcases d with ⟨a, b, c, o, _ | _⟩ <;>
    simp only [pointOf, reflect, neg_sub_neg, Bool.not_true, Bool.not_false, if_true, if_false, Bool.false_eq_true,
      ← neg_div, neg_sub]

theorem regime_reflect (d : Params α) : regime F (reflect d) = regime F d := by
  simp only [regime, reflect, neg_sub_neg]

theorem varOf_reflect (d : Params α) : varOf F (reflect d) = varOf F d := by
  simp only [varOf, reflect, neg_sub_neg]

theorem meanFrac_add (hF : Lawful F) (c : ℕ) : F.n c / (F.n c + F.n 2) + F.n 2 / (F.n c + F.n 2) = 1 := by
  rw [← add_div, div_self]; rw [hF.n_cast, hF.n_cast]; positivity

theorem meanOf_reflect (hF : Lawful F) (d : Params α) : meanOf F (reflect d) = - meanOf F d := by
  rcases d with ⟨a, b, c, o, _ | _⟩ <;>
    simp only [meanOf, reflect, neg_sub_neg, Bool.not_true, Bool.not_false, if_true, if_false, Bool.false_eq_true] <;>
    linear_combination (b - a) * meanFrac_add hF c

theorem clip_one_sub (x : α) : clip (1 - x) 0 1 = 1 - clip x 0 1 := by
  simpa using clip_strictAnti (f := fun x : α => 1 - x) (fun _ _ h => sub_lt_sub_left h 1) x 0 1 zero_le_one

theorem cdfRaw_reflect (hS : Symm F) (d : Params α) (y : α) :
    cdfRaw F (reflect d) (-y) = 1 - cdfRaw F d y := by
  rw [cdfRaw_eq, cdfRaw_eq, locOf_reflect, scaleOf_reflect, pointOf_reflect, hS.cdf_neg]
  rcases d with ⟨a, b, c, o, _ | _⟩ <;>
    simp only [reflect, Bool.not_true, Bool.not_false, if_true, if_false, Bool.false_eq_true] <;> ring

theorem reflect_same_branch (hF : Lawful F) (d : Params α) (hab : d.a < d.b) :
    pointMass F d = false ∧ pointMass F (reflect d) = false ∧ ∀ r, regime F d = r → regime F (reflect d) = r :=
  ⟨pointMass_false hF d hab, pointMass_false hF (reflect d) (neg_lt_neg hab), fun _ => (regime_reflect d).trans⟩

theorem cdf_reflect (hF : Lawful F) (hS : Symm F) (d : Params α) (hab : d.a < d.b) (y : α) :
    cdf F d y = 1 - cdf F (reflect d) (-y) := by
  obtain ⟨hp, hp', hr⟩ := reflect_same_branch hF d hab
  cases h : regime F d
  · rw [cdf_noiseless d y hp h, cdf_noiseless (reflect d) (-y) hp' (hr _ h)]
    rcases d with ⟨a, b, c, o, _ | _⟩ <;>
      simp only [reflect, clip_strictAnti (f := Neg.neg) (fun _ _ => neg_lt_neg) y a b hab.le, neg_sub_neg, hF.n_one,
        Bool.not_true, Bool.not_false, if_true, if_false, Bool.false_eq_true, sub_sub_cancel]
  · rw [cdf_nothing d y hp h, cdf_nothing (reflect d) (-y) hp' (hr _ h), cdfRaw_reflect hS,
      hF.n_zero, hF.n_one, clip_one_sub, sub_sub_cancel]
  · rw [cdf_normal d y hp h, cdf_normal (reflect d) (-y) hp' (hr _ h), meanOf_reflect hF, varOf_reflect,
      neg_sub_neg, ← neg_sub, neg_div, hS.cdf_neg]

theorem pdfRaw_reflect (d : Params α) (y : α) : pdfRaw F (reflect d) (-y) = pdfRaw F d y := by
  rw [pdfRaw_eq, pdfRaw_eq, locOf_reflect, scaleOf_reflect]
  simp only [reflect, neg_sub_neg]

/-- no visited midpoint has `f(mid) = q` exactly (a tie is the only place where the `<` of the code
breaks the mirror symmetry: `D` moves `hi`, `D'` moves `hi'`).  Only the series regime bisects: `ppf_reflect` and
`qtc_reflect` ask for it in every regime and read it in `.nothing` alone.  It holds whenever `q` is not a value of `f`
(`NoTie.of_forall_ne`). -/
def NoTie (f : α → α) (mid : α → α → α) (q : α) : Nat → α × α → Prop
  | 0, _ => True
  | k+1, (lo, hi) =>
    f (mid lo hi) ≠ q ∧
      NoTie f mid q k (if f (mid lo hi) < q then (mid lo hi, hi) else (lo, mid lo hi))

theorem NoTie.of_forall_ne {f : α → α} {q : α} (h : ∀ m, f m ≠ q) (mid : α → α → α) (k : Nat) (br : α × α) :
    NoTie f mid q k br := by
  induction k generalizing br with
  | zero => trivial
  | succ k ih => exact ⟨h _, ih _⟩

theorem midpoint_neg (F : Fns α) (lo hi : α) : midpoint F (-hi) (-lo) = - midpoint F lo hi := by
  unfold midpoint; ring

theorem bisect_reflect (f g : α → α) (q : α) (hfg : ∀ m, g (-m) = 1 - f m) (k : Nat) (lo hi : α)
    (hnt : NoTie f (midpoint F) q k (lo, hi)) :
    bisect g (midpoint F) (1 - q) k (-hi, -lo)
      = (-(bisect f (midpoint F) q k (lo, hi)).2, -(bisect f (midpoint F) q k (lo, hi)).1) := by
  induction k generalizing lo hi with
  | zero => rfl
  | succ k ih =>
    obtain ⟨hne, hrest⟩ := hnt
    simp only [bisect, midpoint_neg, hfg, sub_lt_sub_iff_left]
    rcases lt_or_gt_of_ne hne with h | h
    · rw [if_pos h] at hrest; rw [if_pos h, if_neg h.not_gt]; exact ih _ _ hrest
    · rw [if_neg h.not_gt] at hrest; rw [if_neg h.not_gt, if_pos h]; exact ih _ _ hrest

theorem ppfBisect_reflect (hF : Lawful F) (hS : Symm F) (d : Params α) (hab : d.a < d.b) (q : α)
    (hnt : NoTie (cdf F d) (midpoint F) q 30 (d.a - F.n 6 * d.o, d.b + F.n 6 * d.o)) :
    ppfBisect F (reflect d) (1 - q) = - ppfBisect F d q := by
  rw [ppfBisect_int, ppfBisect_int, intLo_reflect, intHi_reflect,
    bisect_reflect (F := F) (cdf F d) _ q (fun m => by rw [cdf_reflect hF hS d hab m, sub_sub_cancel]) 30 (intLo F d) (intHi F d) hnt,
    midpoint_neg]

theorem ppf_reflect (hF : Lawful F) (hS : Symm F) (hP : SymmPpf F) (d : Params α) (hab : d.a < d.b) (q : α)
    (hq0 : 0 ≤ q) (hq1 : q ≤ 1)
    (hnt : NoTie (cdf F d) (midpoint F) q 30 (d.a - F.n 6 * d.o, d.b + F.n 6 * d.o)) :
    ppf F d q = - ppf F (reflect d) (1 - q) := by
  obtain ⟨hp, hp', hr⟩ := reflect_same_branch hF d hab
  have hc := clip_of_mem q 0 1 hq0 hq1
  have hc' := clip_of_mem (1 - q) 0 1 (sub_nonneg.mpr hq1) (sub_le_self 1 hq0)
  cases h : regime F d
  · rw [ppf_noiseless d q hp h, ppf_noiseless (reflect d) _ hp' (hr _ h), hF.n_zero, hF.n_one, hc, hc']
    rcases d with ⟨a, b, c, o, _ | _⟩ <;>
      simp only [reflect, neg_sub_neg, Bool.not_true, Bool.not_false, if_true, if_false, Bool.false_eq_true,
        sub_sub_cancel] <;> ring
  · rw [ppf_nothing hF d q hp h, ppf_nothing hF _ _ hp' (hr _ h), hc, hc']
    have e0 : 1 - q = 0 ↔ q = 1 := by rw [sub_eq_zero, eq_comm]
    simp only [e0, sub_eq_self]
    by_cases h0 : q = 0
    · rw [if_pos h0, if_neg (h0 ▸ zero_ne_one), if_pos h0, hP.inf_neg]
    · by_cases h1 : q = 1
      · rw [if_neg h0, if_pos h1, if_pos h1, hP.inf_neg, neg_neg]
      · rw [if_neg h0, if_neg h1, if_neg h1, if_neg h0, ppfBisect_reflect hF hS d hab q hnt, neg_neg]
  · rw [ppf_normal d q hp h, ppf_normal (reflect d) _ hp' (hr _ h), hF.n_zero, hF.n_one, hc, hc',
      meanOf_reflect hF, varOf_reflect, hP.ppf_compl]; ring

open Opda.TrapLoop

theorem level_compl (hF : Lawful F) (m : Bool) (q nn : α) : level F (!m) (1 - q) nn = 1 - level F m q nn := by
  cases m <;>
    simp only [level, hF.n_one, Bool.not_true, Bool.not_false, if_true, if_false, Bool.false_eq_true, sub_sub_cancel]

theorem qtc_reflect (hF : Lawful F) (hS : Symm F) (hP : SymmPpf F) (d : Params α) (hab : d.a < d.b)
    (nn q : α) (m : Bool) (h0 : 0 ≤ level F m q nn) (h1 : level F m q nn ≤ 1)
    (hnt : NoTie (cdf F d) (midpoint F) (level F m q nn) 30 (d.a - F.n 6 * d.o, d.b + F.n 6 * d.o)) :
    quantileTuningCurve F d nn q (some m) = - quantileTuningCurve F (reflect d) nn (1 - q) (some (!m)) := by
  unfold quantileTuningCurve
  simp only [Option.getD_some]
  rw [level_compl hF, ppf_reflect hF hS hP d hab _ h0 h1 hnt]

/-- over `ℝ` a lawful `F.n` is the numeral map the loop lemmas of `QuadTrap.lean` are stated with -/
theorem n_eq_cast {F : Fns ℝ} (hF : Lawful F) : F.n = TrapLoop.cast := funext hF.n_cast

/- The integrated average curve, over `ℝ`.  `valueRep` (integrand `gRep`) is what the code returns at refinement level
`i`; `valueCur` is the same loop on `gCur`, the integrand the code used before the repair 867c66b (`1[y>0] − Fⁿ`; the
model keeps it as `TrapLoop.gCur`, `valueCur` and `avgRunCappedLegacy`): the lemmas `avgCur_*` and `avgLegacy_*` are all
about that integrand, and `_partial` in their names means "when `0` lies outside the integration range". -/

/-- LEGACY (pre-867c66b integrand, with the `1[y>0]` term): reflection needed "no grid point is exactly `0`" -/
theorem avgLegacy_reflect {F : Fns ℝ} (hF : Lawful F) (hS : Symm F) (d : Params ℝ) (hab : d.a < d.b) (m : Bool)
    (nn : ℝ) (i : ℕ)
    (h0 : ∀ k : ℕ, k ≤ 2^i → intHi F d - k * Trap.h (intLo F d) (intHi F d) i ≠ 0) :
    valueCur F.n F.pow (cdf F (reflect d)) (!m) nn (intLo F (reflect d)) (intHi F (reflect d)) i
      = - valueCur F.n F.pow (cdf F d) m nn (intLo F d) (intHi F d) i := by
  rw [intLo_reflect, intHi_reflect, n_eq_cast hF]
  apply valueCur_reflect
  · intro x; rw [cdf_reflect hF hS d hab x]; ring
  · exact h0

theorem avgRep_aff {F : Fns ℝ} (hF : Lawful F) (hQ : SqrtScale F) (A : ℝ) {B : ℝ} (hB : 0 < B) (d : Params ℝ)
    (hab : d.a < d.b) (m : Bool) (nn : ℝ) (i : ℕ) :
    valueRep F.n F.pow (cdf F (aff A B d)) m nn (intLo F (aff A B d)) (intHi F (aff A B d)) i
      = A + B * valueRep F.n F.pow (cdf F d) m nn (intLo F d) (intHi F d) i := by
  rw [intLo_aff, intHi_aff, n_eq_cast hF]
  exact valueRep_affine F.pow _ (cdf F d) A B (cdf_aff A hF hQ hB d hab) m nn _ _ i

/-- the repair 867c66b is conservative: the legacy integrand (with `1[y>0]`) gave the same value as the code's
whenever `0` is not inside the integration range of the instance.  (`D₀ = (0, 1, c, s)` never satisfies this — its range
is `[−6s, 1+6s] ∋ 0` — and there the legacy values were not location–scale equivariant: finding F4.) -/
theorem avgCur_eq_avgRep_partial {F : Fns ℝ} (hF : Lawful F) (d : Params ℝ) (hab : d.a ≤ d.b) (ho : 0 ≤ d.o)
    (m : Bool) (nn : ℝ) (i : ℕ) (h : 0 < intLo F d ∨ intHi F d ≤ 0) :
    valueCur F.n F.pow (cdf F d) m nn (intLo F d) (intHi F d) i
      = valueRep F.n F.pow (cdf F d) m nn (intLo F d) (intHi F d) i := by
  rw [n_eq_cast hF]
  exact valueCur_eq_valueRep_partial F.pow (cdf F d) m nn _ _ i (bracket_le hF d hab ho) h

/-- LEGACY: two instances of the same family whose integration ranges both avoid `0` -/
theorem avgCur_shift_partial {F : Fns ℝ} (hF : Lawful F) (hQ : SqrtScale F) (d : Params ℝ) (hab : d.a < d.b)
    (ho : 0 ≤ d.o) (t : ℝ) (m : Bool) (nn : ℝ) (i : ℕ)
    (h : 0 < intLo F d ∨ intHi F d ≤ 0) (h' : 0 < intLo F d + t ∨ intHi F d + t ≤ 0) :
    valueCur F.n F.pow (cdf F { d with a := d.a + t, b := d.b + t }) m nn
        (intLo F { d with a := d.a + t, b := d.b + t }) (intHi F { d with a := d.a + t, b := d.b + t }) i
      = t + valueCur F.n F.pow (cdf F d) m nn (intLo F d) (intHi F d) i := by
  have hd : ({ d with a := d.a + t, b := d.b + t } : Params ℝ) = aff t 1 d := by
    simp only [aff, one_mul, add_comm t]
  have ho' : 0 ≤ (aff t 1 d).o := mul_nonneg zero_le_one ho
  rw [hd, avgCur_eq_avgRep_partial hF _ (aff_lt t one_pos d hab).le ho' m nn i
      (by rw [intLo_aff, intHi_aff, one_mul, one_mul, add_comm t, add_comm t]; exact h'),
    avgCur_eq_avgRep_partial hF d hab.le ho m nn i h, avgRep_aff hF hQ t one_pos d hab, one_mul]

end Opda.Noisy

import Mathlib.Order.Basic
import Mathlib.Tactic
import Mathlib.Algebra.Order.Field.Basic

/-!
# Bracket invariants of bisection loops

`Bisect.run` (C07, reused by C15): one-sided bisection on `F m < q` with an arbitrary midpoint operator; the bracket
stays nested, an end that has moved keeps the comparison that moved it, and the result is monotone in `q`.  `Opda.BetaBisect.run` (C15-T3, below): the two-flag loop of the
highest-density helpers.
-/
namespace Bisect
variable {α : Type} [LinearOrder α]

def run (F : α → α) (mid : α → α → α) (q : α) : Nat → α × α → α × α
  | 0, br => br
  | k+1, (lo, hi) =>
    let m := mid lo hi
    if F m < q then run F mid q k (m, hi) else run F mid q k (lo, m)

def MidOK (mid : α → α → α) : Prop := ∀ lo hi, lo ≤ hi → lo ≤ mid lo hi ∧ mid lo hi ≤ hi

theorem run_inside (F : α → α) (mid : α → α → α) (hm : MidOK mid) (q : α) (k : Nat) (lo hi : α) (h : lo ≤ hi) :
    lo ≤ (run F mid q k (lo, hi)).1 ∧ (run F mid q k (lo, hi)).1 ≤ (run F mid q k (lo, hi)).2
      ∧ (run F mid q k (lo, hi)).2 ≤ hi := by
  induction k generalizing lo hi with
  | zero => exact ⟨le_refl _, h, le_refl _⟩
  | succ k ih =>
    obtain ⟨h1, h2⟩ := hm lo hi h
    simp only [run]
    split_ifs
    · obtain ⟨a, b, c⟩ := ih (mid lo hi) hi h2
      exact ⟨h1.trans a, b, c⟩
    · obtain ⟨a, b, c⟩ := ih lo (mid lo hi) h1
      exact ⟨a, b, c.trans h2⟩

/-- key invariant: for q ≤ q', brackets are equal or ordered -/
theorem run_ordered (F : α → α) (mid : α → α → α) (hm : MidOK mid) (q q' : α) (hq : q ≤ q') (k : Nat)
    (lo hi lo' hi' : α) (h : lo ≤ hi) (h' : lo' ≤ hi')
    (hrel : (lo, hi) = (lo', hi') ∨ hi ≤ lo') :
    run F mid q k (lo, hi) = run F mid q' k (lo', hi')
      ∨ (run F mid q k (lo, hi)).2 ≤ (run F mid q' k (lo', hi')).1 := by
  induction k generalizing lo hi lo' hi' with
  | zero => simpa [run] using hrel
  | succ k ih =>
    obtain ⟨m1, m2⟩ := hm lo hi h
    obtain ⟨m1', m2'⟩ := hm lo' hi' h'
    rcases hrel with heq | hlt
    · obtain ⟨rfl, rfl⟩ := Prod.mk.inj heq
      simp only [run]
      by_cases d : F (mid lo hi) < q
      · have d' : F (mid lo hi) < q' := lt_of_lt_of_le d hq
        simp only [d, d', if_true]
        exact ih _ _ _ _ m2 m2 (Or.inl rfl)
      · by_cases d' : F (mid lo hi) < q'
        · simp only [d, d', if_true, if_false]
          exact ih _ _ _ _ m1 m2 (Or.inr (le_refl _))
        · simp only [d, d', if_false]
          exact ih _ _ _ _ m1 m1 (Or.inl rfl)
    · -- disjoint: stays ordered whatever the decisions
      right
      have A := run_inside F mid hm q (k+1) lo hi h
      have B := run_inside F mid hm q' (k+1) lo' hi' h'
      exact A.2.2.trans (hlt.trans B.1)

theorem result_monotone (F : α → α) (mid : α → α → α) (hm : MidOK mid) (q q' : α) (hq : q ≤ q') (k : Nat)
    (lo hi : α) (h : lo ≤ hi) :
    mid (run F mid q k (lo, hi)).1 (run F mid q k (lo, hi)).2
      ≤ mid (run F mid q' k (lo, hi)).1 (run F mid q' k (lo, hi)).2 := by
  rcases run_ordered F mid hm q q' hq k lo hi lo hi h h (Or.inl rfl) with heq | hlt
  · rw [heq]
  · have A := run_inside F mid hm q k lo hi h
    have B := run_inside F mid hm q' k lo hi h
    exact ((hm _ _ A.2.1).2).trans (hlt.trans (hm _ _ B.2.1).1)

/-- which end has moved, whatever the midpoint operator: the lower end is still the initial one or satisfies `f lo < q`,
the upper end is still the initial one or satisfies `q ≤ f hi` -/
theorem run_invariant (f : α → α) (mid : α → α → α) (q : α) (k : Nat) (lo hi lo0 hi0 : α)
    (hl : lo = lo0 ∨ f lo < q) (hh : hi = hi0 ∨ q ≤ f hi) :
    ((run f mid q k (lo, hi)).1 = lo0 ∨ f (run f mid q k (lo, hi)).1 < q)
      ∧ ((run f mid q k (lo, hi)).2 = hi0 ∨ q ≤ f (run f mid q k (lo, hi)).2) := by
  induction k generalizing lo hi with
  | zero => exact ⟨hl, hh⟩
  | succ k ih =>
    simp only [run]
    split_ifs with h
    · exact ih _ _ (Or.inr h) hh
    · exact ih _ _ hl (Or.inr (not_lt.mp h))

#print axioms result_monotone
end Bisect

/-!
C15-T3.  Both loops of `beta_highest_density_interval` (on the lower end point) and
`beta_highest_density_coverage` (on the partner end point) have the shape

    mid = (lo + hi) / 2 ;  lo = where(moveLo(mid), mid, lo) ;  hi = where(moveHi(mid), mid, hi)

with `moveLo ∨ moveHi` at every midpoint (`x_pdf <= y_pdf` / `x_pdf >= y_pdf`, resp. `y_is_lo` / `~y_is_lo`).
Whatever the decisions are (they come from floating-point densities), the bracket stays nested and
its width is at most `(hi − lo) / 2^k` after `k` steps; with `n_iter = ⌈log₂(max(2, width/atol))⌉`
steps it is therefore at most `atol`.
-/
namespace Opda.BetaBisect
variable {α : Type} [Field α] [LinearOrder α] [IsStrictOrderedRing α]

def run (moveLo moveHi : α → Bool) : Nat → α × α → α × α
  | 0, br => br
  | k+1, (lo, hi) =>
    let m := (lo + hi) / 2
    run moveLo moveHi k (if moveLo m then m else lo, if moveHi m then m else hi)

/-- the midpoint `m` is given additively (`m + m = lo + hi`); the two decisions are arbitrary but not both "stay" -/
theorem step_bracket {lo m hi : α} (h : lo ≤ hi) (hm : m + m = lo + hi) (bl bh : Bool) (hc : bl = true ∨ bh = true) :
    lo ≤ (if bl then m else lo) ∧ (if bl then m else lo) ≤ (if bh then m else hi) ∧ (if bh then m else hi) ≤ hi
      ∧ ((if bh then m else hi) - (if bl then m else lo)) * 2 ≤ hi - lo := by
  have h1 : lo ≤ m := not_lt.1 fun hlt => ((add_lt_add hlt hlt).trans_le (add_le_add_right h lo)).ne hm
  have h2 : m ≤ hi := not_lt.1 fun hlt => ((add_le_add_left h hi).trans_lt (add_lt_add hlt hlt)).ne hm.symm
  have hl : (m - lo) * 2 = hi - lo := by rw [mul_two, sub_add_sub_comm, hm, add_sub_add_left_eq_sub]
  have hr : (hi - m) * 2 = hi - lo := by rw [mul_two, sub_add_sub_comm, hm, add_sub_add_right_eq_sub]
  cases bl <;> cases bh
  · simp at hc
  · exact ⟨le_rfl, h1, h2, hl.le⟩
  · exact ⟨h1, h2, le_rfl, hr.le⟩
  · exact ⟨h1, le_rfl, h2, by rw [if_pos rfl, if_pos rfl, sub_self, zero_mul]; exact sub_nonneg.2 h⟩

theorem run_bracket (moveLo moveHi : α → Bool) (hcover : ∀ m, moveLo m = true ∨ moveHi m = true)
    (k : Nat) (lo hi : α) (h : lo ≤ hi) :
    lo ≤ (run moveLo moveHi k (lo, hi)).1
      ∧ (run moveLo moveHi k (lo, hi)).1 ≤ (run moveLo moveHi k (lo, hi)).2
      ∧ (run moveLo moveHi k (lo, hi)).2 ≤ hi
      ∧ ((run moveLo moveHi k (lo, hi)).2 - (run moveLo moveHi k (lo, hi)).1) * 2 ^ k ≤ hi - lo := by
  induction k generalizing lo hi with
  | zero => exact ⟨le_rfl, h, le_rfl, by rw [pow_zero, mul_one]; exact le_rfl⟩
  | succ k ih =>
    obtain ⟨s1, s2, s3, s4⟩ := step_bracket h (add_halves (lo + hi)) _ _ (hcover _)
    obtain ⟨a, b, c, d⟩ := ih _ _ s2
    refine ⟨s1.trans a, b, c.trans s3, ?_⟩
    rw [pow_succ, ← mul_assoc]
    exact (mul_le_mul_of_nonneg_right d zero_le_two).trans s4

#print axioms run_bracket
end Opda.BetaBisect

import OpdaModel.PolyCheck
import OpdaGen.Table
/-!
Decidable checks on the translated approximation table (core Lean only).

`certOK T ri ei pi D P C B cuts` is *one* Boolean that (i) looks the piece up in the table `T` itself,
(ii) checks that the integer polynomial `C` really is the scaled `p(t²) − t^{m2}` of that piece,
(iii) runs the interval checker over the subdivision `cuts`, (iv) checks that the subdivision covers
`[√klo, √khi]·2^D` and (v) that the integer bound `B` is at most `1.02 · max_error` in the scaled units.
Its soundness theorem is `OpdaProofs/TableSpec.lean: pieceBound_of_cert`.
-/
namespace Opda.Table
open Opda.Gen Opda.PolyCheck

/-- `(2·exponent, coefficients, left knot, right knot, recorded max_error)` of piece `pi` of entry `ei` of row `ri`. -/
def piece? (T : List (Nat × List EntryQ)) (ri ei pi : Nat) : Option (Nat × List Rat × Rat × Rat × Rat) :=
  match T[ri]? with
  | none => none
  | some row =>
    match row.2[ei]? with
    | none => none
    | some e =>
      match e.coeffs[pi]?, e.knots[pi]?, e.knots[pi + 1]? with
      | some cs, some lo, some hi => some (row.1, cs, lo, hi, e.maxError)
      | _, _, _ => none

/-- the factor by which the recorded `max_error` may be exceeded (the property's 1.02) -/
def slack : Rat := 102 / 100

def certOK (T : List (Nat × List EntryQ)) (ri ei pi D P : Nat) (C : List Int) (B : Int) (cuts : List Int) : Bool :=
  match piece? T ri ei pi with
  | none => false
  | some (m2, cs, klo, khi, me) =>
    match cuts with
    | sl :: r1 :: rest' =>
      let rest := r1 :: rest'
      let sh := rest.getLastD 0
      scaleOK D P (gOf cs m2) C
        && checkAll C B (sl :: rest)
        && decide (0 ≤ sl) && decide (((sl : Int) : Rat) ^ 2 ≤ klo * 4 ^ D)
        && decide (0 ≤ sh) && decide (khi * 4 ^ D ≤ ((sh : Int) : Rat) ^ 2)
        && decide ((B : Rat) ≤ (slack * me) * 2 ^ (P + ((gOf cs m2).length - 1) * D))
    | _ => false

/-- everything `certOK` checks except the interval checker: the piece exists in `T`, `C` is its scaled polynomial,
`[sl, sh]` covers `[√klo, √khi]·2^D`, and `B` is at most `1.02·max_error` in scaled units -/
def headOK (T : List (Nat × List EntryQ)) (ri ei pi D P : Nat) (C : List Int) (B sl sh : Int) : Bool :=
  match piece? T ri ei pi with
  | none => false
  | some (m2, cs, klo, khi, me) =>
    scaleOK D P (gOf cs m2) C
      && decide (0 ≤ sl) && decide (((sl : Int) : Rat) ^ 2 ≤ klo * 4 ^ D)
      && decide (0 ≤ sh) && decide (khi * 4 ^ D ≤ ((sh : Int) : Rat) ^ 2)
      && decide ((B : Rat) ≤ (slack * me) * 2 ^ (P + ((gOf cs m2).length - 1) * D))

/-- the interval checker on one chunk of a subdivision, together with the chunk's end points
(`OpdaProofs/TableCert.lean: rangeBound_of_chunk`; the generated certificates are checked by `PolyPacked.packedOK` instead) -/
def chunkOK (C : List Int) (B : Int) (cuts : List Int) (a b : Int) : Bool :=
  checkAll C B cuts && decide (cuts.head? = some a) && decide (cuts.getLast? = some b) && decide (2 ≤ cuts.length)

/-- every `(row, entry, piece)` index triple of the table -/
def allPieces (T : List (Nat × List EntryQ)) : List (Nat × Nat × Nat) :=
  (List.range T.length).flatMap fun ri =>
    match T[ri]? with
    | none => []
    | some row =>
      (List.range row.2.length).flatMap fun ei =>
        match row.2[ei]? with
        | none => []
        | some e => (List.range e.coeffs.length).map fun pi => (ri, ei, pi)

def strictlyIncreasing : List Rat → Bool
  | [] => true
  | [_] => true
  | x :: y :: rest => decide (x < y) && strictlyIncreasing (y :: rest)

def strictlyDecreasing : List Rat → Bool
  | [] => true
  | [_] => true
  | x :: y :: rest => decide (y < x) && strictlyDecreasing (y :: rest)

/-- structure of one entry: knots increase strictly from exactly 0 to exactly 1, one coefficient vector per piece,
positive recorded error -/
def entryOK (e : EntryQ) : Bool :=
  strictlyIncreasing e.knots && decide (e.knots.head? = some 0) && decide (e.knots.getLast? = some 1)
    && decide (e.coeffs.length + 1 = e.knots.length) && decide (0 < e.maxError)

/-- structure of one row: all entries well formed, `min_scale` strictly decreasing and ending at exactly 0 -/
def rowOK (row : Nat × List EntryQ) : Bool :=
  row.2.all entryOK && strictlyDecreasing (row.2.map (·.minScale))
    && decide ((row.2.map (·.minScale)).getLast? = some 0)

def structOK (T : List (Nat × List EntryQ)) : Bool := T.all rowOK

/-- the code's selection rule: the first entry with `scale ≥ min_scale` -/
def select (es : List EntryQ) (scale : Rat) : Option EntryQ := es.find? fun e => decide (e.minScale ≤ scale)

end Opda.Table

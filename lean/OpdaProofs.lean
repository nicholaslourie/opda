import OpdaProofs.Audit
import OpdaProofs.BandBox
import OpdaProofs.BandCor
import OpdaProofs.BandMore
import OpdaProofs.BetaBinom
import OpdaProofs.BetaCheck
import OpdaProofs.BetaHdV
import OpdaProofs.Bisect
import OpdaProofs.BisectRobust
import OpdaProofs.CdfOf
import OpdaProofs.DkwEps
import OpdaProofs.Emp
import OpdaProofs.EmpAvg
import OpdaProofs.EmpAvgExt
import OpdaProofs.EmpDrv
import OpdaProofs.EmpMoments
import OpdaProofs.EmpMore
import OpdaProofs.EmpQtc
import OpdaProofs.ExchangeMono
import OpdaProofs.Experiments
import OpdaProofs.ExperimentsVolume
import OpdaProofs.ExtInst
import OpdaProofs.Fit
import OpdaProofs.FitInv
import OpdaProofs.FitLoss
import OpdaProofs.FitPlan
import OpdaProofs.HdiBound
import OpdaProofs.Lagrange
import OpdaProofs.LdStat
import OpdaProofs.LdWiden
import OpdaProofs.MaxOfN
import OpdaProofs.Minimax
import OpdaProofs.NoisyAccuracy
import OpdaProofs.NoisyBisect
import OpdaProofs.NoisyConv
import OpdaProofs.NoisyLaw
import OpdaProofs.NoisyLogic
import OpdaProofs.NoisyReal
import OpdaProofs.NoisySmooth
import OpdaProofs.NoisyTable
import OpdaProofs.NormalSpec
import OpdaProofs.OrderStatBeta
import OpdaProofs.PolyBridge
import OpdaProofs.PolyPacked
import OpdaProofs.PolyQ
import OpdaProofs.QuadAvg
import OpdaProofs.QuadBeta
import OpdaProofs.QuadLaw
import OpdaProofs.QuadNoisyDual
import OpdaProofs.QuadNoisyQtc
import OpdaProofs.QuadPdf
import OpdaProofs.QuadTail
import OpdaProofs.QuadTrap
import OpdaProofs.RealInst
import OpdaProofs.RectBand
import OpdaProofs.RectPIT
import OpdaProofs.RectProb
import OpdaProofs.RectVolume
import OpdaProofs.Reexp
import OpdaProofs.RemezModel
import OpdaProofs.Rng
import OpdaProofs.RngHistory
import OpdaProofs.Sample
import OpdaProofs.Small
import OpdaProofs.SortFirst
import OpdaProofs.TableCert
import OpdaProofs.TableMoments
import OpdaProofs.TableSpec
import OpdaProofs.Props.C01
import OpdaProofs.Props.C02
import OpdaProofs.Props.C03
import OpdaProofs.Props.C04
import OpdaProofs.Props.C05
import OpdaProofs.Props.C06
import OpdaProofs.Props.C07
import OpdaProofs.Props.C08
import OpdaProofs.Props.C09
import OpdaProofs.Props.C10
import OpdaProofs.Props.C11
import OpdaProofs.Props.C13
import OpdaProofs.Props.C14
import OpdaProofs.Props.C15
import OpdaProofs.Props.C16
import OpdaProofs.Props.C17
import OpdaProofs.Props.C18
import OpdaProofs.Props.C19
import OpdaProofs.Props.C20
